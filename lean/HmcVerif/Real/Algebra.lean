import HmcVerif.Model.DistAlg
import Mathlib.LinearAlgebra.Matrix.NonsingularInverse
import Mathlib.LinearAlgebra.Matrix.DotProduct
import Mathlib.Data.Real.Basic
/-
  Facts about Mathlib matrices and core lists; the model's `Dist.sumList` as a `Finset` sum.
-/
open Matrix
namespace HmcVerif
variable {ι R : Type} [Fintype ι] [DecidableEq ι] [CommRing R]

/-- in the coordinates of a factor `A` of `M = A Aᵀ` the quadratic form of `M⁻¹` is the unit one:
    `(A z)ᵀ M⁻¹ (A z) = zᵀ z` -/
theorem quadForm_inv_of_factor (M A : Matrix ι ι R) (hA : A * Aᵀ = M) (hM : IsUnit M.det) (z : ι → R) :
    (A *ᵥ z) ⬝ᵥ (M⁻¹ *ᵥ (A *ᵥ z)) = z ⬝ᵥ z := by
  have key : Aᵀ * (M⁻¹ * A) = 1 :=
    mul_eq_one_comm.mp (by rw [Matrix.mul_assoc, hA, Matrix.nonsing_inv_mul _ hM])
  simp only [Matrix.mulVec_mulVec, Matrix.dotProduct_mulVec, Matrix.vecMul_mulVec, key, Matrix.vecMul_one]

theorem zipWith_ofFn {α β γ : Type} (f : α → β → γ) {n : Nat} (a : Fin n → α) (b : Fin n → β) :
    List.zipWith f (List.ofFn a) (List.ofFn b) = List.ofFn fun j => f (a j) (b j) :=
  List.ext_getElem (by simp) fun _ _ _ => by simp

namespace Dist

/-- `sumList` is the code's left-to-right accumulation -/
theorem sumList_eq_sum (l : List ℝ) : sumList 0 l = l.sum := List.sum_eq_foldl.symm

theorem sumList_ofFn {k : Nat} (a : Fin k → ℝ) : sumList 0 (List.ofFn a) = ∑ j, a j := by
  rw [sumList_eq_sum, List.sum_ofFn]

theorem sumList_zipWith_ofFn (f : ℝ → ℝ → ℝ) {k : Nat} (a b : Fin k → ℝ) :
    sumList 0 (List.zipWith f (List.ofFn a) (List.ofFn b)) = ∑ j, f (a j) (b j) := by
  rw [zipWith_ofFn, sumList_ofFn]

end Dist
end HmcVerif
