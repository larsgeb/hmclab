import HmcVerif.Model.Integrator
import HmcVerif.Real.Kernel
import Mathlib.MeasureTheory.Measure.Prod
import Mathlib.MeasureTheory.Measure.Lebesgue.Basic
import Mathlib.MeasureTheory.Group.Measure
import Mathlib.MeasureTheory.Constructions.Pi
/-
  Each sub-step of a splitting integrator is a shear of phase space, hence preserves Lebesgue
  volume; so does every composition.
-/
open MeasureTheory
namespace HmcVerif
variable {ι : Type} [Fintype ι]

abbrev Vec (ι : Type) := ι → ℝ

def toProd {V : Type} (s : PS V) : V × V := (s.q, s.p)
def ofProd {V : Type} (x : V × V) : PS V := ⟨x.1, x.2⟩

/-- a sub-step of an unbounded target (the corrector is `id`) as a map on `V × V` -/
def stepProd (vel grad : Vec ι → Vec ι) (x : Vec ι × Vec ι) (o : Op ℝ) : Vec ι × Vec ι :=
  toProd (stepOp vel grad id (ofProd x) o)

section shear
variable {A G : Type*} [MeasurableSpace A] [MeasurableSpace G] [Add G] [MeasurableAdd₂ G]
  (μ : Measure A) (ν : Measure G) [SFinite μ] [SFinite ν] [ν.IsAddRightInvariant]

theorem measurePreserving_shear_snd (f : A → G) (hf : Measurable f) :
    MeasurePreserving (fun x : A × G => (x.1, x.2 + f x.1)) (μ.prod ν) (μ.prod ν) :=
  (MeasurePreserving.id μ).skew_product (g := fun a p => p + f a) (measurable_snd.add (hf.comp measurable_fst))
    (ae_of_all _ fun a => map_add_right_eq_self ν (f a))

theorem measurePreserving_shear_fst (f : A → G) (hf : Measurable f) :
    MeasurePreserving (fun x : G × A => (x.1 + f x.2, x.2)) (ν.prod μ) (ν.prod μ) :=
  (Measure.measurePreserving_swap.comp (measurePreserving_shear_snd μ ν f hf)).comp Measure.measurePreserving_swap
end shear

theorem kick_measurePreserving (g : Vec ι → Vec ι) (hg : Measurable g) (c : ℝ) :
    MeasurePreserving (fun x : Vec ι × Vec ι => (x.1, x.2 - c • g x.1))
      ((volume : Measure (Vec ι)).prod volume) ((volume : Measure (Vec ι)).prod volume) := by
  simpa only [sub_eq_add_neg] using measurePreserving_shear_snd volume volume (fun q => -(c • g q)) (hg.const_smul c).neg

theorem drift_measurePreserving (v : Vec ι → Vec ι) (hv : Measurable v) (c : ℝ) :
    MeasurePreserving (fun x : Vec ι × Vec ι => (x.1 + c • v x.2, x.2))
      ((volume : Measure (Vec ι)).prod volume) ((volume : Measure (Vec ι)).prod volume) :=
  measurePreserving_shear_fst volume volume (fun p => c • v p) (hv.const_smul c)

theorem step_measurePreserving (vel grad : Vec ι → Vec ι) (hv : Measurable vel) (hg : Measurable grad)
    (o : Op ℝ) :
    MeasurePreserving (fun x => stepProd vel grad x o)
      ((volume : Measure (Vec ι)).prod volume) ((volume : Measure (Vec ι)).prod volume) := by
  cases o with
  | drift c => exact drift_measurePreserving vel hv c
  | kick c => exact kick_measurePreserving grad hg c

theorem toProd_runOps {α V : Type} [Add V] [Sub V] [SMul α V] (vel grad : V → V) (refl : PS V → PS V) (ops : List (Op α))
    (x : V × V) :
    toProd (runOps vel grad refl ops (ofProd x)) = ops.foldl (fun y o => toProd (stepOp vel grad refl (ofProd y) o)) x := by
  induction ops generalizing x with
  | nil => rfl
  | cons o os ih => exact ih (toProd (stepOp vel grad refl (ofProd x) o))

theorem propose_volume_preserving (vel grad : Vec ι → Vec ι) (hv : Measurable vel) (hg : Measurable grad)
    (ops : List (Op ℝ)) :
    MeasurePreserving (fun x : Vec ι × Vec ι => toProd (runOps vel grad id ops (ofProd x)))
      ((volume : Measure (Vec ι)).prod volume) ((volume : Measure (Vec ι)).prod volume) := by
  simp only [toProd_runOps]
  exact foldl_measurePreserving (step := stepProd vel grad) (step_measurePreserving vel grad hv hg) ops
end HmcVerif
