import HmcVerif.Model.Integrator
import HmcVerif.Real.Lit
import Mathlib.Tactic.Ring
import Mathlib.Data.Real.Basic
/-
  `reflect1`, the first half of the one-coordinate corrector (one mirror reflection per wall), over ℝ.
-/
namespace HmcVerif

def inBox1 (lb ub : Option ℝ) (x : ℝ) : Prop :=
  (∀ l, lb = some l → l ≤ x) ∧ (∀ u, ub = some u → x ≤ u)
def strictlyInBox1 (lb ub : Option ℝ) (x : ℝ) : Prop :=
  (∀ l, lb = some l → l < x) ∧ (∀ u, ub = some u → x < u)

theorem inBox1_some_none {l x : ℝ} : inBox1 (some l) none x ↔ l ≤ x := by
  simp only [inBox1, Option.some.injEq, forall_eq', reduceCtorEq, false_imp_iff, implies_true, and_true]
theorem inBox1_none_some {u x : ℝ} : inBox1 none (some u) x ↔ x ≤ u := by
  simp only [inBox1, Option.some.injEq, forall_eq', reduceCtorEq, false_imp_iff, implies_true, true_and]
theorem inBox1_some_some {l u x : ℝ} : inBox1 (some l) (some u) x ↔ l ≤ x ∧ x ≤ u := by
  simp only [inBox1, Option.some.injEq, forall_eq']
theorem strictlyInBox1_some_some {l u x : ℝ} : strictlyInBox1 (some l) (some u) x ↔ l < x ∧ x < u := by
  simp only [strictlyInBox1, Option.some.injEq, forall_eq']

/-- a point and its mirror image `2 a - x` in `a` lie on opposite sides of `a` -/
theorem lt_two_mul_sub {a x : ℝ} (h : x < a) : a < 2 * a - x := by
  rw [two_mul, add_sub_assoc]; exact lt_add_of_pos_right a (sub_pos.2 h)
theorem two_mul_sub_lt {a x : ℝ} (h : a < x) : 2 * a - x < a := by
  rw [two_mul, add_sub_assoc]; exact add_lt_of_neg_right a (sub_neg.2 h)

theorem reflLow_ge (lb : Option ℝ) (s : ℝ × ℝ) (h : ∀ l, lb = some l → l ≤ s.1) : reflLow lb s = s := by
  cases lb with
  | none => rfl
  | some l => exact if_neg (not_lt.2 (h l rfl))
theorem reflLow_lt (l : ℝ) (s : ℝ × ℝ) (h : s.1 < l) : reflLow (some l) s = (2 * l - s.1, -s.2) := by
  simp only [reflLow, if_pos h, lit_two]; congr 1; ring
theorem reflHigh_le (ub : Option ℝ) (s : ℝ × ℝ) (h : ∀ u, ub = some u → s.1 ≤ u) : reflHigh ub s = s := by
  cases ub with
  | none => rfl
  | some u => exact if_neg (not_lt.2 (h u rfl))
theorem reflHigh_gt (u : ℝ) (s : ℝ × ℝ) (h : u < s.1) : reflHigh (some u) s = (2 * u - s.1, -s.2) := by
  simp only [reflHigh, if_pos h, lit_two]; congr 1; ring

theorem reflLow_sq (lb : Option ℝ) (s : ℝ × ℝ) : (reflLow lb s).2 ^ 2 = s.2 ^ 2 := by
  cases lb with
  | none => rfl
  | some l => simp only [reflLow]; split_ifs <;> simp
theorem reflHigh_sq (ub : Option ℝ) (s : ℝ × ℝ) : (reflHigh ub s).2 ^ 2 = s.2 ^ 2 := by
  cases ub with
  | none => rfl
  | some l => simp only [reflHigh]; split_ifs <;> simp

theorem reflect1_momentum_sq (lb ub : Option ℝ) (x p : ℝ) :
    (reflect1 lb ub x p).2 ^ 2 = p ^ 2 := by
  unfold reflect1; rw [reflHigh_sq, reflLow_sq]

theorem reflect1_inside (lb ub : Option ℝ) (x p : ℝ) (h : inBox1 lb ub x) :
    reflect1 lb ub x p = (x, p) := by
  unfold reflect1
  rw [reflLow_ge lb _ h.1, reflHigh_le ub _ h.2]

theorem reflect1_low (l : ℝ) (ub : Option ℝ) (x p : ℝ) (h : x < l)
    (hu : ∀ u, ub = some u → 2 * l - x ≤ u) :
    reflect1 (some l) ub x p = (2 * l - x, -p) := by
  unfold reflect1
  rw [reflLow_lt l _ h, reflHigh_le ub _ hu]

theorem reflect1_high (lb : Option ℝ) (u : ℝ) (x p : ℝ) (h : u < x)
    (hl : ∀ l, lb = some l → l ≤ x) :
    reflect1 lb (some u) x p = (2 * u - x, -p) := by
  unfold reflect1
  rw [reflLow_ge lb _ hl, reflHigh_gt u _ h]

end HmcVerif
