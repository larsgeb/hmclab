import Mathlib.Analysis.Calculus.FDeriv.Add
import Mathlib.Analysis.Calculus.FDeriv.Mul
import Mathlib.Analysis.Calculus.FDeriv.Comp
import Mathlib.Analysis.Calculus.FDeriv.Prod
import Mathlib.Analysis.Calculus.LineDeriv.Basic
import Mathlib.Data.Matrix.Mul
import Mathlib.LinearAlgebra.Matrix.Symmetric
/-
  "`g` is the gradient of `m` at `x`": the Fréchet derivative of `m` at `x` is the linear form
  `gradL g : v ↦ Σᵢ gᵢ vᵢ`. Since `gradL` is linear in `g`, every rule of differentiation for
  `HasFDerivAt` gives the rule of the same name for gradients (`IsGradAt.of_hasFDerivAt`). On top of
  the rules: the leaves hmclab's distributions are built from (linear forms, coordinates, separable
  sums, symmetric quadratic forms).
-/
open Finset
namespace HmcVerif
variable {ι : Type} [Fintype ι]

noncomputable def gradL (w : ι → ℝ) : (ι → ℝ) →L[ℝ] ℝ :=
  ∑ i, w i • (ContinuousLinearMap.proj i : (ι → ℝ) →L[ℝ] ℝ)

theorem gradL_apply (w v : ι → ℝ) : gradL w v = ∑ i, w i * v i := by
  simp only [gradL, FunLike.coe_sum, Finset.sum_apply, FunLike.coe_smul,
    Pi.smul_apply, ContinuousLinearMap.proj_apply, smul_eq_mul]

/-- `gradLₗ w` is `gradL w` by `rfl`: the four lemmas below are its `map_*` read through that -/
noncomputable def gradLₗ : (ι → ℝ) →ₗ[ℝ] (ι → ℝ) →L[ℝ] ℝ :=
  Fintype.linearCombination ℝ fun i => ContinuousLinearMap.proj i

theorem gradL_add (a b : ι → ℝ) : gradL (a + b) = gradL a + gradL b := gradLₗ.map_add a b

theorem gradL_smul (c : ℝ) (a : ι → ℝ) : gradL (c • a) = c • gradL a := gradLₗ.map_smul c a

theorem gradL_zero : gradL (0 : ι → ℝ) = 0 := gradLₗ.map_zero

theorem gradL_sum {κ : Type} (s : Finset κ) (a : κ → ι → ℝ) : gradL (∑ k ∈ s, a k) = ∑ k ∈ s, gradL (a k) :=
  map_sum gradLₗ a s

def IsGradAt (m : (ι → ℝ) → ℝ) (g : ι → ℝ) (x : ι → ℝ) : Prop := HasFDerivAt m (gradL g) x

namespace IsGradAt
variable {m m₁ m₂ : (ι → ℝ) → ℝ} {g g₁ g₂ : ι → ℝ} {x : ι → ℝ}

theorem of_hasFDerivAt {L : (ι → ℝ) →L[ℝ] ℝ} (h : HasFDerivAt m L x) (e : gradL g = L) : IsGradAt m g x := by
  subst e; exact h

theorem congr (h : IsGradAt m₁ g₁ x) (hm : ∀ y, m y = m₁ y) (hg : g = g₁) : IsGradAt m g x :=
  funext hm ▸ hg ▸ h

theorem line (h : IsGradAt m g x) (v : ι → ℝ) :
    HasDerivAt (fun t : ℝ => m (x + t • v)) (∑ i, g i * v i) 0 :=
  gradL_apply g v ▸ HasFDerivAt.hasLineDerivAt h v

/-- the property's "coordinate by coordinate": `∂m/∂xᵢ = gᵢ` -/
theorem partial_deriv [DecidableEq ι] (h : IsGradAt m g x) (i : ι) :
    HasDerivAt (fun t : ℝ => m (x + t • Pi.single i 1)) (g i) 0 :=
  (h.line (Pi.single i 1)).congr_deriv (dotProduct_single_one g i)

theorem const (c : ℝ) : IsGradAt (fun _ : ι → ℝ => c) 0 x :=
  of_hasFDerivAt (hasFDerivAt_const c x) gradL_zero

theorem add (h₁ : IsGradAt m₁ g₁ x) (h₂ : IsGradAt m₂ g₂ x) :
    IsGradAt (fun y => m₁ y + m₂ y) (g₁ + g₂) x :=
  of_hasFDerivAt (HasFDerivAt.add h₁ h₂) (gradL_add g₁ g₂)

theorem sum {κ : Type} (s : Finset κ) {ms : κ → (ι → ℝ) → ℝ} {gs : κ → ι → ℝ}
    (h : ∀ k ∈ s, IsGradAt (ms k) (gs k) x) : IsGradAt (fun y => ∑ k ∈ s, ms k y) (∑ k ∈ s, gs k) x :=
  of_hasFDerivAt (HasFDerivAt.fun_sum h) (gradL_sum s gs)

theorem mul (h₁ : IsGradAt m₁ g₁ x) (h₂ : IsGradAt m₂ g₂ x) :
    IsGradAt (fun y => m₁ y * m₂ y) (m₁ x • g₂ + m₂ x • g₁) x :=
  of_hasFDerivAt (HasFDerivAt.mul h₁ h₂) (by simp only [gradL_add, gradL_smul])

/-- chain rule with a scalar outer function -/
theorem scomp {φ : ℝ → ℝ} {φ' : ℝ} (h : IsGradAt m g x) (hφ : HasDerivAt φ φ' (m x)) :
    IsGradAt (fun y => φ (m y)) (φ' • g) x :=
  of_hasFDerivAt (hφ.comp_hasFDerivAt (𝕜 := ℝ) x h) (gradL_smul φ' g)

/-- chain rule with a vector inner function `f`, row `k` of whose Jacobian is `J k`: the outer
    gradient is pulled back by the transposed Jacobian -/
theorem comp {κ : Type} [Fintype κ] {n : (κ → ℝ) → ℝ} {gn : κ → ℝ} {f : (ι → ℝ) → κ → ℝ} {J : κ → ι → ℝ}
    (h : IsGradAt n gn (f x)) (hf : ∀ k, IsGradAt (fun y => f y k) (J k) x) :
    IsGradAt (fun y => n (f y)) (∑ k, gn k • J k) x := by
  have e : gradL (∑ k, gn k • J k) = (gradL gn).comp (ContinuousLinearMap.pi fun k => gradL (J k)) := by
    rw [gradL_sum, gradL, ContinuousLinearMap.finsetSum_comp]
    -- `(c • proj k) ∘ pi f` is `c • f k` by `rfl`: `gradL_smul` closes each term through that
    exact sum_congr rfl fun k _ => gradL_smul (gn k) (J k)
  exact of_hasFDerivAt (HasFDerivAt.comp (𝕜 := ℝ) x h (hasFDerivAt_pi.2 hf)) e

/-! The remaining rules are restatements of the ones above: every call of a `HasFDerivAt` lemma pays for the
    normed-space instances of `ι → ℝ` again, `congr` does not. -/

theorem const_mul (h : IsGradAt m g x) (c : ℝ) : IsGradAt (fun y => c * m y) (c • g) x :=
  h.scomp (hasDerivAt_const_mul c)

theorem mul_self (h : IsGradAt m g x) : IsGradAt (fun y => m y * m y) ((2 * m x) • g) x :=
  (h.mul h).congr (fun _ => rfl) (by rw [two_mul, add_smul])

/-- temperature: dividing the misfit by `T` divides the gradient by `T` -/
theorem div_const (h : IsGradAt m g x) (T : ℝ) : IsGradAt (fun y => m y / T) (fun i => g i / T) x :=
  (h.const_mul T⁻¹).congr (fun y => div_eq_inv_mul (m y) T) (funext fun i => div_eq_inv_mul (g i) T)

theorem neg (h : IsGradAt m g x) : IsGradAt (fun y => -m y) (-g) x :=
  (h.const_mul (-1)).congr (fun y => (neg_one_mul (m y)).symm) (neg_one_smul ℝ g).symm

theorem sub (h₁ : IsGradAt m₁ g₁ x) (h₂ : IsGradAt m₂ g₂ x) :
    IsGradAt (fun y => m₁ y - m₂ y) (g₁ - g₂) x :=
  (h₁.add h₂.neg).congr (fun y => sub_eq_add_neg (m₁ y) (m₂ y)) (sub_eq_add_neg g₁ g₂)

theorem add_const (h : IsGradAt m g x) (c : ℝ) : IsGradAt (fun y => m y + c) g x :=
  (h.add (const c)).congr (fun _ => rfl) (add_zero g).symm

theorem sub_const (h : IsGradAt m g x) (c : ℝ) : IsGradAt (fun y => m y - c) g x :=
  (h.add_const (-c)).congr (fun y => sub_eq_add_neg (m y) c) rfl

theorem const_sub (h : IsGradAt m g x) (c : ℝ) : IsGradAt (fun y => c - m y) (-g) x :=
  (h.neg.add_const c).congr (fun y => sub_eq_neg_add c (m y)) rfl

end IsGradAt

theorem isGradAt_dotProduct (w x : ι → ℝ) : IsGradAt (fun y => w ⬝ᵥ y) w x :=
  (gradL w).hasFDerivAt.congr_of_eventuallyEq (.of_forall fun y => (gradL_apply w y).symm)

theorem isGradAt_coord [DecidableEq ι] (i : ι) (x : ι → ℝ) : IsGradAt (fun y : ι → ℝ => y i) (Pi.single i 1) x :=
  (isGradAt_dotProduct (Pi.single i 1) x).congr (fun y => (single_one_dotProduct i y).symm) rfl

theorem sum_smul_single [DecidableEq ι] (w : ι → ℝ) : ∑ i, w i • (Pi.single i 1 : ι → ℝ) = w :=
  (pi_eq_sum_univ' w).symm

/-- reading the parameters through an index map `σ` (a sub-block, a layout of named parameters) -/
theorem IsGradAt.reindex [DecidableEq ι] {κ : Type} [Fintype κ] {n : (κ → ℝ) → ℝ} {gn : κ → ℝ} {x : ι → ℝ}
    (σ : κ → ι) (h : IsGradAt n gn (fun k => x (σ k))) :
    IsGradAt (fun y => n (fun k => y (σ k))) (∑ k, gn k • (Pi.single (σ k) 1 : ι → ℝ)) x :=
  h.comp fun k => isGradAt_coord (σ k) x

theorem isGradAt_separable (φ : ι → ℝ → ℝ) (φ' : ι → ℝ) (x : ι → ℝ)
    (h : ∀ i, HasDerivAt (φ i) (φ' i) (x i)) :
    IsGradAt (fun y => ∑ i, φ i (y i)) φ' x := by
  classical
  have := IsGradAt.sum univ fun i _ => (isGradAt_coord i x).scomp (h i)
  rwa [sum_smul_single] at this

section quad
open Matrix
variable [DecidableEq ι]

/-- `½ zᵀ A z` with `A` symmetric has gradient `A z`: the product rule on `Σᵢ zᵢ (A z)ᵢ` gives
    `zᵀ A + A z` -/
theorem isGradAt_quadForm_self (A : Matrix ι ι ℝ) (hA : A.IsSymm) (z : ι → ℝ) :
    IsGradAt (fun y => (1/2) * (y ⬝ᵥ (A *ᵥ y))) (A *ᵥ z) z := by
  have h := (IsGradAt.sum univ fun i _ => (isGradAt_coord i z).mul (isGradAt_dotProduct (A i) z)).const_mul (1/2)
  have e : ∑ i, (A i ⬝ᵥ z) • (Pi.single i 1 : ι → ℝ) = A *ᵥ z := sum_smul_single (A *ᵥ z)
  refine h.congr (fun _ => rfl) ?_
  rw [sum_add_distrib, e, ← vecMul_eq_sum, ← mulVec_transpose, hA.eq, ← two_smul ℝ, smul_smul, one_div,
    inv_mul_cancel₀ two_ne_zero, one_smul]

theorem isGradAt_quadForm (A : Matrix ι ι ℝ) (hA : A.IsSymm) (μ x : ι → ℝ) :
    IsGradAt (fun y => (1/2) * ((μ - y) ⬝ᵥ (A *ᵥ (μ - y)))) (-(A *ᵥ (μ - x))) x := by
  refine ((isGradAt_quadForm_self A hA (μ - x)).comp fun k => (isGradAt_coord k x).const_sub (μ k)).congr
    (fun _ => rfl) ?_
  simp only [smul_neg, sum_neg_distrib, sum_smul_single]

end quad

end HmcVerif
