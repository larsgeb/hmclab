/-
  A palindromic composition of steps, each reversed by a flip, is reversed by the flip. Core Lean only.
-/
namespace HmcVerif
namespace Split
variable {σ Op : Type} (step : σ → Op → σ) (flip : σ → σ)

def StepReversible : Prop := ∀ o s, step (flip (step s o)) o = flip s

def PathGood (Good : σ → Op → Prop) : List Op → σ → Prop
  | [], _ => True
  | o :: os, s => Good s o ∧ PathGood Good os (step s o)

theorem pathGood_of_forall (Good : σ → Op → Prop) (h : ∀ s o, Good s o) (ops : List Op) (s : σ) :
    PathGood step Good ops s := by
  induction ops generalizing s with
  | nil => trivial
  | cons o os ih => exact ⟨h s o, ih _⟩

theorem run_reverse_flip_on (Good : σ → Op → Prop)
    (h : ∀ o s, Good s o → step (flip (step s o)) o = flip s) (ops : List Op) (s : σ)
    (hg : PathGood step Good ops s) :
    ops.reverse.foldl step (flip (ops.foldl step s)) = flip s := by
  induction ops generalizing s with
  | nil => rfl
  | cons o os ih =>
    rw [List.foldl_cons, List.reverse_cons, List.foldl_append, ih _ hg.2]
    exact h o s hg.1

theorem palindrome_reversible_on (Good : σ → Op → Prop)
    (h : ∀ o s, Good s o → step (flip (step s o)) o = flip s) (ops : List Op)
    (hp : ops.reverse = ops) (s : σ) (hg : PathGood step Good ops s) :
    ops.foldl step (flip (ops.foldl step s)) = flip s := by
  have := run_reverse_flip_on step flip Good h ops s hg
  rwa [hp] at this

theorem palindrome_reversible (h : StepReversible step flip) (ops : List Op)
    (hp : ops.reverse = ops) (s : σ) :
    ops.foldl step (flip (ops.foldl step s)) = flip s :=
  palindrome_reversible_on step flip (fun _ _ => True) (fun o s _ => h o s) ops hp s
    (pathGood_of_forall step _ (fun _ _ => trivial) ops s)

end Split
end HmcVerif
