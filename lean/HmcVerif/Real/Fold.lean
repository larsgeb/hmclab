import HmcVerif.Real.Reflect
import Mathlib.Algebra.Order.Floor.Ring
import Mathlib.Algebra.Order.Archimedean.Real.Basic
import Mathlib.Tactic.Linarith
import Mathlib.Tactic.Ring
import Mathlib.Tactic.Push
/-
  Real-number facts about the whole one-coordinate corrector `corrector1` (= `reflect1`, then
  `refold` for two-sided boxes).  The central fact, for every kind of box (`correctorR_imgO`): the result
  lies in the box and is an image of the input under the group generated by the mirror reflections at the
  walls.  An image of a strictly interior point that lies in the box is the point itself, so a drift
  followed by the corrector is reversed by a momentum flip from every start strictly inside the box -
  however long the drift.
-/
namespace HmcVerif

noncomputable def floorR (x : ℝ) : ℝ := (⌊x⌋ : ℝ)
noncomputable def isOddR (x : ℝ) : Bool := decide (⌊x⌋ % 2 ≠ 0)
def finiteR (_ : ℝ) : Bool := true

/-- the model's corrector over ℝ: floor and parity of the integer part, every real is finite -/
noncomputable def correctorR (lb ub : Option ℝ) (x p : ℝ) : ℝ × ℝ := corrector1 floorR isOddR finiteR lb ub x p

theorem refold_inside (l u : ℝ) (s : ℝ × ℝ) (h : l ≤ s.1 ∧ s.1 ≤ u) : refold floorR isOddR finiteR l u s = s :=
  if_neg fun h' => h'.1.elim (not_lt.2 h.1) (not_lt.2 h.2)

theorem refold_outside (l u x p : ℝ) (hw : 0 < u - l) (h : x < l ∨ u < x) :
    refold floorR isOddR finiteR l u (x, p) =
      if ⌊(x - l) / (u - l)⌋ % 2 ≠ 0 then (u - (x - l - ⌊(x - l) / (u - l)⌋ * (u - l)), -p)
      else (l + (x - l - ⌊(x - l) / (u - l)⌋ * (u - l)), p) := by
  unfold refold
  rw [if_pos ⟨h, rfl, rfl, by rwa [lit_zero]⟩]
  simp only [floorR, isOddR, Int.floor_intCast, decide_eq_true_eq]

theorem correctorR_eq_reflect1 (lb ub : Option ℝ) (y p : ℝ) (h : inBox1 lb ub (reflect1 lb ub y p).1) :
    correctorR lb ub y p = reflect1 lb ub y p := by
  rcases lb with _ | l <;> rcases ub with _ | u <;> try rfl
  exact refold_inside l u _ (inBox1_some_some.1 h)

theorem correctorR_of_reflect1 {lb ub : Option ℝ} {x p : ℝ} {r : ℝ × ℝ} (e : reflect1 lb ub x p = r)
    (hr : inBox1 lb ub r.1) : correctorR lb ub x p = r := by
  subst e
  exact correctorR_eq_reflect1 lb ub x p hr

theorem refold_sq (l u : ℝ) (s : ℝ × ℝ) : (refold floorR isOddR finiteR l u s).2 ^ 2 = s.2 ^ 2 := by
  simp only [refold]; split_ifs <;> simp

theorem correctorR_momentum_sq (lb ub : Option ℝ) (y p : ℝ) : (correctorR lb ub y p).2 ^ 2 = p ^ 2 := by
  have h0 := reflect1_momentum_sq lb ub y p
  rcases lb with _ | l <;> rcases ub with _ | u <;> try exact h0
  exact (refold_sq l u _).trans h0

/-- `x` with sign `s` is an image of `y` under the reflections at the walls `l` and `l + w` -/
def Img (l w y x s : ℝ) : Prop :=
  ∃ j : ℤ, (x = y + 2 * j * w ∧ s = 1) ∨ (x = 2 * l + 2 * j * w - y ∧ s = -1)

theorem Img.refl (l w y : ℝ) : Img l w y y 1 := ⟨0, Or.inl ⟨by simp, rfl⟩⟩

theorem Img.trans {l w y x1 s1 x2 s2 : ℝ} (h1 : Img l w y x1 s1) (h2 : Img l w x1 x2 s2) : Img l w y x2 (s2 * s1) := by
  obtain ⟨j1, h1⟩ := h1
  obtain ⟨j2, h2⟩ := h2
  rcases h1 with ⟨rfl, rfl⟩ | ⟨rfl, rfl⟩ <;> rcases h2 with ⟨rfl, rfl⟩ | ⟨rfl, rfl⟩
  · exact ⟨j1 + j2, Or.inl ⟨by push_cast; ring, one_mul 1⟩⟩
  · exact ⟨j2 - j1, Or.inr ⟨by push_cast; ring, mul_one (-1)⟩⟩
  · exact ⟨j1 + j2, Or.inr ⟨by push_cast; ring, one_mul (-1)⟩⟩
  · exact ⟨j2 - j1, Or.inl ⟨by push_cast; ring, by rw [neg_one_mul, neg_neg]⟩⟩

theorem Img.shift {l w y c p x s : ℝ} (h : Img l w (y + c * p) x s) : Img l w y (x + c * -(s * p)) s := by
  obtain ⟨j, ⟨rfl, rfl⟩ | ⟨rfl, rfl⟩⟩ := h
  · exact ⟨j, Or.inl ⟨by ring, rfl⟩⟩
  · exact ⟨j, Or.inr ⟨by ring, rfl⟩⟩

/-- each half of `reflect1` is a conditional mirror reflection at a wall of the lattice `l + ℤ w` (for `reflHigh`
    the upper bound has to be given as such a wall, `u = l + j w`): it returns an image, on the right side of its wall -/
theorem reflLow_img (l w y p : ℝ) :
    ∃ x s, reflLow (some l) (y, p) = (x, s * p) ∧ Img l w y x s ∧ inBox1 (some l) none x := by
  by_cases h : y < l
  · exact ⟨2 * l - y, -1, by rw [reflLow_lt l _ h, neg_one_mul], ⟨0, Or.inr ⟨by simp, rfl⟩⟩,
      inBox1_some_none.2 (lt_two_mul_sub h).le⟩
  · have hb := inBox1_some_none.2 (not_lt.1 h)
    exact ⟨y, 1, by rw [reflLow_ge _ _ hb.1, one_mul], Img.refl _ _ _, hb⟩

theorem reflHigh_img {l w u : ℝ} (j : ℤ) (hu : u = l + j * w) (y p : ℝ) :
    ∃ x s, reflHigh (some u) (y, p) = (x, s * p) ∧ Img l w y x s ∧ inBox1 none (some u) x := by
  by_cases h : u < y
  · exact ⟨2 * u - y, -1, by rw [reflHigh_gt u _ h, neg_one_mul],
      ⟨j, Or.inr ⟨by rw [hu, mul_add, mul_assoc], rfl⟩⟩, inBox1_none_some.2 (two_mul_sub_lt h).le⟩
  · have hb := inBox1_none_some.2 (not_lt.1 h)
    exact ⟨y, 1, by rw [reflHigh_le _ _ hb.2, one_mul], Img.refl _ _ _, hb⟩

theorem refold_img (l u x1 p1 : ℝ) (hlu : l < u) :
    ∃ x s, refold floorR isOddR finiteR l u (x1, p1) = (x, s * p1) ∧ Img l (u - l) x1 x s ∧ l ≤ x ∧ x ≤ u := by
  have hw : 0 < u - l := sub_pos.2 hlu
  by_cases hout : x1 < l ∨ u < x1
  · rw [refold_outside l u x1 p1 hw hout]
    -- with `k` the floor, the remainder `x1 - l - k (u - l)` lies in `[0, u - l)`
    have hr0 := Int.sub_floor_div_mul_nonneg (x1 - l) hw
    have hr1 := Int.sub_floor_div_mul_lt (x1 - l) hw
    generalize ⌊(x1 - l) / (u - l)⌋ = k at hr0 hr1 ⊢
    obtain ⟨m, rfl | rfl⟩ := Int.even_or_odd' k
    · rw [if_neg (not_not.2 (Int.mul_emod_right 2 m))]
      exact ⟨_, 1, by rw [one_mul], ⟨-m, Or.inl ⟨by push_cast; ring, rfl⟩⟩,
        le_add_of_nonneg_right hr0, (lt_sub_iff_add_lt'.1 hr1).le⟩
    · rw [if_pos (Int.emod_two_ne_zero.2 (Int.mul_add_emod_self_left ..))]
      exact ⟨_, -1, by rw [neg_one_mul p1], ⟨m + 1, Or.inr ⟨by push_cast; ring, rfl⟩⟩,
        (lt_sub_comm.1 hr1).le, sub_le_self u hr0⟩
  · push Not at hout
    exact ⟨x1, 1, by rw [refold_inside l u _ hout, one_mul], Img.refl _ _ _, hout⟩

theorem correctorR_img (l u y p : ℝ) (hlu : l < u) :
    ∃ x s, correctorR (some l) (some u) y p = (x, s * p) ∧ Img l (u - l) y x s ∧ l ≤ x ∧ x ≤ u := by
  obtain ⟨x1, s1, e1, i1, _⟩ := reflLow_img l (u - l) y p
  obtain ⟨x2, s2, e2, i2, _⟩ := reflHigh_img (l := l) (w := u - l) (u := u) 1 (by simp) x1 (s1 * p)
  obtain ⟨x3, s3, e3, i3, hb⟩ := refold_img l u x2 (s2 * (s1 * p)) hlu
  refine ⟨x3, s3 * (s2 * s1), ?_, (i1.trans i2).trans i3, hb⟩
  rw [correctorR, corrector1, reflect1, e1, e2, e3, mul_assoc, mul_assoc]

def wf1 (lb ub : Option ℝ) : Prop := ∀ l u, lb = some l → ub = some u → l < u

theorem wf1_two {l u : ℝ} (hlu : l < u) : wf1 (some l) (some u) := by
  intro l' u' hl hu; cases hl; cases hu; exact hlu

/-- the reflection group of a box of any kind, as a mirror position and a period: a one-sided box has one mirror
    (period 0); without bounds the values do not matter -/
def boxBase : Option ℝ → Option ℝ → ℝ
  | some l, _ => l
  | none, some u => u
  | none, none => 0
def boxPeriod : Option ℝ → Option ℝ → ℝ
  | some l, some u => u - l
  | _, _ => 0

theorem correctorR_imgO (lb ub : Option ℝ) (hwf : wf1 lb ub) (y p : ℝ) :
    ∃ x s, correctorR lb ub y p = (x, s * p) ∧ Img (boxBase lb ub) (boxPeriod lb ub) y x s ∧ inBox1 lb ub x := by
  rcases lb with _ | l <;> rcases ub with _ | u
  · exact ⟨y, 1, by rw [one_mul]; rfl, Img.refl _ _ _, nofun, nofun⟩
  · exact reflHigh_img (l := u) (w := 0) 0 (by simp) y p
  · exact reflLow_img l 0 y p
  · obtain ⟨x, s, e, hi, hb⟩ := correctorR_img l u y p (hwf l u rfl rfl)
    exact ⟨x, s, e, hi, inBox1_some_some.2 hb⟩

theorem correctorR_inBox1 (lb ub : Option ℝ) (hwf : wf1 lb ub) (y p : ℝ) : inBox1 lb ub (correctorR lb ub y p).1 := by
  obtain ⟨x, s, e, _, hb⟩ := correctorR_imgO lb ub hwf y p
  rw [e]; exact hb

theorem correctorR_in_box (l u y p : ℝ) (hlu : l < u) :
    l ≤ (correctorR (some l) (some u) y p).1 ∧ (correctorR (some l) (some u) y p).1 ≤ u :=
  inBox1_some_some.1 (correctorR_inBox1 _ _ (wf1_two hlu) y p)

theorem int_eq_zero_of_abs_mul_lt {w : ℝ} (hw : 0 < w) {k : ℤ} (h : |(k : ℝ) * w| < w) : k = 0 := by
  rw [abs_mul, abs_of_pos hw, mul_lt_iff_lt_one_left hw, ← Int.cast_abs, ← Int.cast_one, Int.cast_lt] at h
  exact Int.abs_lt_one_iff.1 h

theorem Img.eq_of_mem_box {l u x x' t : ℝ} (hlu : l < u) (h : Img l (u - l) x x' t)
    (hx : l < x ∧ x < u) (hx' : l ≤ x' ∧ x' ≤ u) : x' = x ∧ t = 1 := by
  have hw : 0 < u - l := sub_pos.2 hlu
  obtain ⟨j, ⟨rfl, rfl⟩ | ⟨rfl, rfl⟩⟩ := h
  · -- a translate by `2 j w`, within a distance `< w`
    obtain rfl : j = 0 := int_eq_zero_of_abs_mul_lt hw (abs_lt.2 ⟨by linarith, by linarith⟩)
    simp
  · -- a mirror image in the wall `l + j w`, which then lies strictly between `l` and `l + w`
    obtain rfl : j = 0 := int_eq_zero_of_abs_mul_lt hw (abs_lt.2 ⟨by linarith, by linarith⟩)
    rw [Int.cast_zero] at hx'
    linarith

theorem Img.eq_of_same_side {a x x' t : ℝ} (h : Img a 0 x x' t) (hs : x < a ∧ x' ≤ a ∨ a < x ∧ a ≤ x') :
    x' = x ∧ t = 1 := by
  obtain ⟨j, ⟨rfl, rfl⟩ | ⟨rfl, rfl⟩⟩ := h
  · simp
  · rw [mul_zero, add_zero] at hs
    rcases hs with hs | hs
    · exact absurd hs.2 (lt_two_mul_sub hs.1).not_ge
    · exact absurd hs.2 (two_mul_sub_lt hs.1).not_ge

theorem Img.eq_of_inBox1 {lb ub : Option ℝ} (hwf : wf1 lb ub) (hne : ¬ (lb = none ∧ ub = none)) {x x' t : ℝ}
    (h : Img (boxBase lb ub) (boxPeriod lb ub) x x' t) (hx : strictlyInBox1 lb ub x) (hx' : inBox1 lb ub x') :
    x' = x ∧ t = 1 := by
  rcases lb with _ | l <;> rcases ub with _ | u
  · exact absurd ⟨rfl, rfl⟩ hne
  · exact h.eq_of_same_side (Or.inl ⟨hx.2 u rfl, hx'.2 u rfl⟩)
  · exact h.eq_of_same_side (Or.inr ⟨hx.1 l rfl, hx'.1 l rfl⟩)
  · exact h.eq_of_mem_box (hwf l u rfl rfl) (strictlyInBox1_some_some.1 hx) (inBox1_some_some.1 hx')

/-- a drift followed by the whole corrector on one coordinate; `w` = drift time × inverse mass of the coordinate -/
noncomputable def cdrift1 (lb ub : Option ℝ) (w : ℝ) (x p : ℝ) : ℝ × ℝ := correctorR lb ub (x + w * p) p

theorem cdrift1_reversible (lb ub : Option ℝ) (c x p : ℝ)
    (hwf : ∀ l u, lb = some l → ub = some u → l < u) (hin : strictlyInBox1 lb ub x) :
    cdrift1 lb ub c (cdrift1 lb ub c x p).1 (-(cdrift1 lb ub c x p).2) = (x, -p) := by
  by_cases hne : lb = none ∧ ub = none
  · obtain ⟨rfl, rfl⟩ := hne
    change (x + c * p + c * -p, -p) = (x, -p)
    rw [mul_neg, add_neg_cancel_right]
  · unfold cdrift1
    -- out: an image `x'` of `x + c p` with sign `s`; back: an image `x''` of `x' - c s p`, which is itself an image of `x`
    obtain ⟨x', s, e, hi, _⟩ := correctorR_imgO lb ub hwf (x + c * p) p
    rw [e]
    obtain ⟨x'', s', e', hi', hb'⟩ := correctorR_imgO lb ub hwf (x' + c * -(s * p)) (-(s * p))
    rw [e']
    obtain ⟨rfl, hs⟩ := (hi.shift.trans hi').eq_of_inBox1 hwf hne hin hb'
    rw [mul_neg, ← mul_assoc, hs, one_mul]

theorem cdrift1_reversible_box (l u c x p : ℝ) (hlu : l < u) (hxl : l < x) (hxu : x < u) :
    cdrift1 (some l) (some u) c (cdrift1 (some l) (some u) c x p).1 (-(cdrift1 (some l) (some u) c x p).2) = (x, -p) :=
  cdrift1_reversible _ _ c x p (wf1_two hlu) (strictlyInBox1_some_some.2 ⟨hxl, hxu⟩)
end HmcVerif
