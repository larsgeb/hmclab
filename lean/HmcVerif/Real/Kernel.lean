import HmcVerif.Real.Split
import Mathlib.MeasureTheory.Integral.Lebesgue.Map
import Mathlib.MeasureTheory.Integral.Lebesgue.Add
import Mathlib.Dynamics.Ergodic.MeasurePreserving
/-
  A kernel is modelled by its action on non-negative test functions, `K g x = E[g(next) | x]`; a density `π` with
  respect to `μ` is invariant iff `∫ π · K g dμ = ∫ π · g dμ` for every measurable `g`.
-/
open MeasureTheory ENNReal
namespace HmcVerif
section
variable {X : Type*} [MeasurableSpace X] (μ : Measure X)

/-- Metropolis kernel: move to `Ψ x` with probability `a x`, stay otherwise -/
noncomputable def metropolisOp (Ψ : X → X) (a : X → ℝ≥0∞) (g : X → ℝ≥0∞) : X → ℝ≥0∞ :=
  fun x => a x * g (Ψ x) + (1 - a x) * g x

theorem metropolisOp_measurable (Ψ : X → X) (hΨ : Measurable Ψ) (a : X → ℝ≥0∞) (ha : Measurable a)
    (g : X → ℝ≥0∞) (hg : Measurable g) : Measurable (metropolisOp Ψ a g) :=
  (ha.mul (hg.comp hΨ)).add ((measurable_const.sub ha).mul hg)

end

theorem metropolis_invariant_ae {X : Type*} [MeasurableSpace X] (μ : Measure X)
    (Ψ : X → X) (hΨ : MeasurePreserving Ψ μ μ) (hinv : ∀ᵐ x ∂μ, Ψ (Ψ x) = x)
    (π a : X → ℝ≥0∞) (hπ : Measurable π) (ha : Measurable a)
    (hπfin : ∀ x, π x ≠ ∞)
    (hrule : ∀ x, π x * a x = min (π x) (π (Ψ x)))
    (g : X → ℝ≥0∞) (hg : Measurable g) :
    ∫⁻ x, π x * metropolisOp Ψ a g x ∂μ = ∫⁻ x, π x * g x ∂μ := by
  -- mass `s` moves from `x` to `Ψ x`, mass `π − s` stays
  let s : X → ℝ≥0∞ := fun x => min (π x) (π (Ψ x))
  have hsm : Measurable s := hπ.min (hπ.comp hΨ.measurable)
  have hsg : Measurable fun x => s x * g (Ψ x) := hsm.mul (hg.comp hΨ.measurable)
  -- change of variables under `Ψ`; `s ∘ Ψ = s` where `Ψ` is an involution
  have hcv : ∫⁻ x, s x * g (Ψ x) ∂μ = ∫⁻ x, s x * g x ∂μ := by
    rw [← hΨ.lintegral_comp hsg]
    exact lintegral_congr_ae (hinv.mono fun x hx => by simp only [s, hx, min_comm])
  calc ∫⁻ x, π x * metropolisOp Ψ a g x ∂μ
      = ∫⁻ x, s x * g (Ψ x) + (π x - s x) * g x ∂μ := lintegral_congr fun x => by
        rw [metropolisOp, mul_add, ← mul_assoc, ← mul_assoc, ENNReal.mul_sub fun _ _ => hπfin x, mul_one, hrule]
    _ = ∫⁻ x, s x * g x + (π x - s x) * g x ∂μ := by
        rw [lintegral_add_left hsg, hcv]
        exact (lintegral_add_left (hsm.mul hg) _).symm
    _ = ∫⁻ x, π x * g x ∂μ := lintegral_congr fun x => by
        rw [← add_mul, add_tsub_cancel_of_le (min_le_left (π x) (π (Ψ x)))]

section
variable {X : Type*} [MeasurableSpace X] (μ : Measure X)

theorem metropolis_invariant
    (Ψ : X → X) (hΨ : MeasurePreserving Ψ μ μ) (hinv : ∀ x, Ψ (Ψ x) = x)
    (π a : X → ℝ≥0∞) (hπ : Measurable π) (ha : Measurable a)
    (hπfin : ∀ x, π x ≠ ∞)
    (hrule : ∀ x, π x * a x = min (π x) (π (Ψ x)))
    (g : X → ℝ≥0∞) (hg : Measurable g) :
    ∫⁻ x, π x * metropolisOp Ψ a g x ∂μ = ∫⁻ x, π x * g x ∂μ :=
  metropolis_invariant_ae μ Ψ hΨ (ae_of_all _ hinv) π a hπ ha hπfin hrule g hg

def Invariant (π : X → ℝ≥0∞) (K : (X → ℝ≥0∞) → (X → ℝ≥0∞)) : Prop :=
  (∀ g, Measurable g → Measurable (K g)) ∧
  ∀ g, Measurable g → ∫⁻ x, π x * K g x ∂μ = ∫⁻ x, π x * g x ∂μ

theorem comp_invariant (π : X → ℝ≥0∞) (K₁ K₂ : (X → ℝ≥0∞) → (X → ℝ≥0∞))
    (h₁ : Invariant μ π K₁) (h₂ : Invariant μ π K₂) : Invariant μ π (fun g => K₁ (K₂ g)) :=
  ⟨fun g hg => h₁.1 _ (h₂.1 g hg), fun g hg => by rw [h₁.2 _ (h₂.1 g hg), h₂.2 g hg]⟩

theorem iterate_invariant (π : X → ℝ≥0∞) (K : (X → ℝ≥0∞) → (X → ℝ≥0∞)) (hK : Invariant μ π K) (n : ℕ) :
    Invariant μ π (K^[n]) := by
  induction n with
  | zero => exact ⟨fun g hg => hg, fun g _ => rfl⟩
  | succ k ih => exact comp_invariant μ π (K^[k]) K ih hK

end

section traj
variable {X Op : Type} [MeasurableSpace X] {ν : Measure X} {step : X → Op → X}

theorem foldl_measurePreserving (h : ∀ o, MeasurePreserving (fun x => step x o) ν ν) (ops : List Op) :
    MeasurePreserving (fun x => ops.foldl step x) ν ν := by
  induction ops with
  | nil => exact MeasurePreserving.id ν
  | cons o os ih => exact ih.comp (h o)

theorem pathGood_ae_of (h : ∀ o, MeasurePreserving (fun x => step x o) ν ν) {D : Set X} (hD : ∀ᵐ x ∂ν, x ∈ D)
    (ops : List Op) : ∀ᵐ x ∂ν, Split.PathGood step (fun s _ => s ∈ D) ops x := by
  induction ops with
  | nil => exact ae_of_all _ fun _ => trivial
  | cons o os ih =>
    -- pre-images of null sets under measure-preserving maps are null
    filter_upwards [hD, (h o).quasiMeasurePreserving.ae ih] with x a b using ⟨a, b⟩

theorem palindrome_reversible_ae (h : ∀ o, MeasurePreserving (fun x => step x o) ν ν) {D : Set X}
    (hD : ∀ᵐ x ∂ν, x ∈ D) (flip : X → X) (hrev : ∀ o, ∀ x ∈ D, step (flip (step x o)) o = flip x)
    (ops : List Op) (hp : ops.reverse = ops) :
    ∀ᵐ x ∂ν, ops.foldl step (flip (ops.foldl step x)) = flip x := by
  filter_upwards [pathGood_ae_of h hD ops] with x hx
  exact Split.palindrome_reversible_on step flip _ hrev ops hp x hx
end traj

end HmcVerif
