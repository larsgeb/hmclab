import HmcVerif.Real.Fold
import HmcVerif.Real.Volume
import Mathlib.MeasureTheory.Measure.Prod
import Mathlib.MeasureTheory.Measure.Lebesgue.Basic
import Mathlib.MeasureTheory.Group.Measure
import Mathlib.MeasureTheory.Constructions.BorelSpace.Order
import Mathlib.Order.Disjointed
import Mathlib.Logic.Denumerable
import Mathlib.MeasureTheory.Function.Floor
/-
  Volume preservation of the boxed drift (C01 / C04), one coordinate, every kind of box (`lb ub : Option ℝ`:
  two-sided, one-sided, none): a drift of any length followed by the whole corrector (all reflections) maps the
  strict interior of the box in phase space injectively into the closed box and carries Lebesgue measure on
  the strict interior to itself.  The proof is the billiard argument: on countably many measurable pieces the
  map is one of the affine isometries `(q, p) ↦ (q + c p + 2 j w, p)` / `(q, p) ↦ (2 a + 2 j w − q − c p, −p)`
  (`correctorR_imgO`), it is injective because a momentum flip reverses it (`cdrift1_reversible`), and its
  image misses the interior only on the walls and on the pre-image of the walls, which are null.
  The statements about a two-sided box `l < u` (`cdriftMap`, `openStrip`) are the instances `some l`, `some u`.
-/
open MeasureTheory Set
namespace HmcVerif

/-- A map that agrees on countably many measurable pieces with measure-preserving equivalences and is
    injective on their union transports the measure of that union onto the measure of its image. -/
theorem piecewise_measure {X : Type} [MeasurableSpace X] (μ : Measure X) (Φ : X → X) (D : Set X)
    (e : ℕ → X ≃ᵐ X) (he : ∀ n, MeasurePreserving (e n) μ μ)
    (S : ℕ → Set X) (hS : ∀ n, MeasurableSet (S n)) (hcov : D = ⋃ n, S n)
    (hΦ : ∀ n, ∀ x ∈ S n, Φ x = e n x) (hinj : Set.InjOn Φ D)
    (A : Set X) (hA : MeasurableSet A) :
    μ (Φ ⁻¹' A ∩ D) = μ (A ∩ Φ '' D) := by
  -- disjoint pieces `S' n ⊆ S n`; on `S' n`, `Φ` is `e n`
  let S' := disjointed S
  have hdis := disjoint_disjointed S
  have hU : D = ⋃ n, S' n := by rw [hcov, iUnion_disjointed]
  have hsubD : ∀ n, S' n ⊆ D := fun n => hU ▸ subset_iUnion S' n
  have hΦ' : ∀ n, ∀ x ∈ S' n, Φ x = e n x := fun n x hx => hΦ n x (disjointed_subset S n hx)
  have hT : ∀ n, Φ ⁻¹' A ∩ S' n = e n ⁻¹' A ∩ S' n := fun n => by
    ext x; exact and_congr_left fun hx => by rw [mem_preimage, mem_preimage, hΦ' n x hx]
  have hI : ∀ n, Φ '' (Φ ⁻¹' A ∩ S' n) = e n '' (e n ⁻¹' A ∩ S' n) := fun n => by
    rw [hT n]; exact image_congr fun x hx => hΦ' n x hx.2
  have hm : ∀ n, MeasurableSet (e n ⁻¹' A ∩ S' n) := fun n =>
    ((e n).measurable hA).inter (MeasurableSet.disjointed hS n)
  -- `A ∩ Φ '' D` is the image of `Φ ⁻¹' A ∩ D`; split both along the pieces
  rw [← image_preimage_inter, hU, inter_iUnion, image_iUnion,
    measure_iUnion ?_ fun n => hT n ▸ hm n, measure_iUnion ?_ fun n => hI n ▸ (e n).measurableSet_image.2 (hm n)]
  · congr 1; funext n
    rw [hI n, hT n, ← (he n).measure_preimage_equiv (e n '' _), preimage_image_eq _ (e n).injective]
  · -- the images of the pieces are disjoint because `Φ` is injective
    exact fun i j hij => disjoint_image_image fun x hx y hy h =>
      (hdis hij).ne_of_mem hx.2 hy.2 (hinj (hsubD i hx.2) (hsubD j hy.2) h)
  · exact fun i j hij => ((hdis hij).inter_left' _).inter_right' _

/-- image map without momentum flip -/
noncomputable def evenE (c a : ℝ) : ℝ × ℝ ≃ᵐ ℝ × ℝ where
  toFun z := (z.1 + c * z.2 + a, z.2)
  invFun z := (z.1 - c * z.2 - a, z.2)
  left_inv z := by refine Prod.ext ?_ ?_ <;> dsimp only <;> ring
  right_inv z := by refine Prod.ext ?_ ?_ <;> dsimp only <;> ring
  measurable_toFun := by
    change Measurable (fun z : ℝ × ℝ => (z.1 + c * z.2 + a, z.2)); fun_prop
  measurable_invFun := by
    change Measurable (fun z : ℝ × ℝ => (z.1 - c * z.2 - a, z.2)); fun_prop

/-- image map with momentum flip -/
noncomputable def oddE (c a : ℝ) : ℝ × ℝ ≃ᵐ ℝ × ℝ where
  toFun z := (a - (z.1 + c * z.2), -z.2)
  invFun z := (a - z.1 + c * z.2, -z.2)
  left_inv z := by refine Prod.ext ?_ ?_ <;> dsimp only <;> ring
  right_inv z := by refine Prod.ext ?_ ?_ <;> dsimp only <;> ring
  measurable_toFun := by
    change Measurable (fun z : ℝ × ℝ => (a - (z.1 + c * z.2), -z.2)); fun_prop
  measurable_invFun := by
    change Measurable (fun z : ℝ × ℝ => (a - z.1 + c * z.2, -z.2)); fun_prop

-- Mathlib's instance sits behind `Measure.Haar.Unique`; this one needs `Real.map_volume_mul_left` only
instance volume_neg_invariant : (volume : Measure ℝ).IsNegInvariant :=
  ⟨by simpa [Measure.neg, ← neg_eq_neg_one_mul] using Real.map_volume_mul_left (a := -1) (by norm_num)⟩

/-- a shear followed by the translation `(q, p) ↦ (q + a, p)` -/
theorem evenE_mp (c a : ℝ) : MeasurePreserving (evenE c a) volume volume :=
  ((measurePreserving_add_right (volume : Measure ℝ) a).prod (MeasurePreserving.id (volume : Measure ℝ))).comp
    (measurePreserving_shear_fst (volume : Measure ℝ) (volume : Measure ℝ) (fun p => c * p) (by fun_prop))

/-- a shear followed by the point reflection `(q, p) ↦ (a − q, −p)` -/
theorem oddE_mp (c a : ℝ) : MeasurePreserving (oddE c a) volume volume :=
  ((Measure.measurePreserving_sub_left (volume : Measure ℝ) a).prod (Measure.measurePreserving_neg (volume : Measure ℝ))).comp
    (measurePreserving_shear_fst (volume : Measure ℝ) (volume : Measure ℝ) (fun p => c * p) (by fun_prop))

/-- the countable family of image maps, indexed through `ℕ ≃ ℤ × ℤ`: the first component is the lattice index `j`,
    the second selects `evenE` (`0`) or `oddE` (anything else) -/
noncomputable def pieceE (l u c : ℝ) (n : ℕ) : ℝ × ℝ ≃ᵐ ℝ × ℝ :=
  if (Denumerable.ofNat (ℤ × ℤ) n).2 = 0 then evenE c (2 * (Denumerable.ofNat (ℤ × ℤ) n).1 * (u - l))
  else oddE c (2 * l + 2 * (Denumerable.ofNat (ℤ × ℤ) n).1 * (u - l))

theorem pieceE_mp (l u c : ℝ) (n : ℕ) : MeasurePreserving (pieceE l u c n) volume volume := by
  unfold pieceE; split
  · exact evenE_mp _ _
  · exact oddE_mp _ _

def flip1 (z : ℝ × ℝ) : ℝ × ℝ := (z.1, -z.2)

theorem flip1_involutive : Function.Involutive flip1 := fun _ => Prod.ext rfl (neg_neg _)

theorem flip1_mp : MeasurePreserving flip1 (volume : Measure (ℝ × ℝ)) volume :=
  (MeasurePreserving.id (volume : Measure ℝ)).prod (Measure.measurePreserving_neg (volume : Measure ℝ))

/-- the boxed drift (drift of signed length `c`, then the whole corrector) as a map of the phase plane -/
noncomputable def cdriftMapO (lb ub : Option ℝ) (c : ℝ) (z : ℝ × ℝ) : ℝ × ℝ := cdrift1 lb ub c z.1 z.2

def stripO (lb ub : Option ℝ) : Set (ℝ × ℝ) := {z | strictlyInBox1 lb ub z.1}

noncomputable def cdriftMap (l u c : ℝ) (z : ℝ × ℝ) : ℝ × ℝ := cdrift1 (some l) (some u) c z.1 z.2

def openStrip (l u : ℝ) : Set (ℝ × ℝ) := {z | l < z.1 ∧ z.1 < u}

theorem stripO_two (l u : ℝ) : stripO (some l) (some u) = openStrip l u := by
  ext z; exact strictlyInBox1_some_some

theorem flip1_stripO (lb ub : Option ℝ) : flip1 ⁻¹' stripO lb ub = stripO lb ub := rfl

/-- the strict interior is an interval of positions -/
theorem stripO_measurable (lb ub : Option ℝ) : MeasurableSet (stripO lb ub) :=
  measurable_fst (Set.OrdConnected.measurableSet (s := {x | strictlyInBox1 lb ub x})
    ⟨fun _ hx _ hy _ hz => ⟨fun l hl => (hx.1 l hl).trans_le hz.1, fun u hu => hz.2.trans_lt (hy.2 u hu)⟩⟩)

theorem openStrip_measurable (l u : ℝ) : MeasurableSet (openStrip l u) :=
  stripO_two l u ▸ stripO_measurable _ _

@[fun_prop] theorem floorR_measurable : Measurable floorR :=
  (measurable_from_top (f := fun k : ℤ => (k : ℝ))).comp Int.measurable_floor

@[fun_prop] theorem isOddR_measurable : Measurable isOddR :=
  (measurable_from_top (f := fun k : ℤ => decide (k % 2 ≠ 0))).comp Int.measurable_floor

theorem reflLow_measurable (lb : Option ℝ) : Measurable (reflLow lb : ℝ × ℝ → ℝ × ℝ) := by
  cases lb with
  | none => exact measurable_id
  | some l => exact Measurable.ite (Measurable.setOf (by fun_prop)) (by fun_prop) measurable_id

theorem reflHigh_measurable (ub : Option ℝ) : Measurable (reflHigh ub : ℝ × ℝ → ℝ × ℝ) := by
  cases ub with
  | none => exact measurable_id
  | some u => exact Measurable.ite (Measurable.setOf (by fun_prop)) (by fun_prop) measurable_id

theorem refold_measurable (l u : ℝ) : Measurable (refold floorR isOddR finiteR l u) := by
  unfold refold finiteR
  exact Measurable.ite (Measurable.setOf (by fun_prop))
    (Measurable.ite (Measurable.setOf (by fun_prop)) (by fun_prop) (by fun_prop)) measurable_id

theorem correctorR_measurable (lb ub : Option ℝ) : Measurable (fun z : ℝ × ℝ => correctorR lb ub z.1 z.2) := by
  have h : Measurable (fun z : ℝ × ℝ => reflect1 lb ub z.1 z.2) := (reflHigh_measurable ub).comp (reflLow_measurable lb)
  rcases lb with _ | l <;> rcases ub with _ | u <;> try exact h
  exact (refold_measurable l u).comp h

theorem cdriftMapO_measurable (lb ub : Option ℝ) (c : ℝ) : Measurable (cdriftMapO lb ub c) :=
  (correctorR_measurable lb ub).comp (f := fun z : ℝ × ℝ => (z.1 + c * z.2, z.2)) (by fun_prop)

theorem cdriftMapO_is_piece (lb ub : Option ℝ) (hwf : wf1 lb ub) (c : ℝ) (z : ℝ × ℝ) :
    ∃ n, cdriftMapO lb ub c z = pieceE (boxBase lb ub) (boxBase lb ub + boxPeriod lb ub) c n z := by
  obtain ⟨x, s, e, ⟨j, hj⟩, _⟩ := correctorR_imgO lb ub hwf (z.1 + c * z.2) z.2
  rw [cdriftMapO, cdrift1, e]
  rcases hj with ⟨rfl, rfl⟩ | ⟨rfl, rfl⟩
  · refine ⟨Encodable.encode (j, (0 : ℤ)), ?_⟩
    rw [pieceE, Denumerable.ofNat_encode, if_pos rfl, add_sub_cancel_left, one_mul]
    rfl
  · refine ⟨Encodable.encode (j, (1 : ℤ)), ?_⟩
    rw [pieceE, Denumerable.ofNat_encode, if_neg one_ne_zero, add_sub_cancel_left, neg_one_mul z.2]
    rfl

theorem cdriftMapO_reversible (lb ub : Option ℝ) (hwf : wf1 lb ub) (c : ℝ) {z : ℝ × ℝ} (hz : z ∈ stripO lb ub) :
    cdriftMapO lb ub c (flip1 (cdriftMapO lb ub c z)) = flip1 z :=
  cdrift1_reversible lb ub c z.1 z.2 hwf hz

theorem cdriftMapO_injOn (lb ub : Option ℝ) (hwf : wf1 lb ub) (c : ℝ) : Set.InjOn (cdriftMapO lb ub c) (stripO lb ub) :=
  fun z hz z' hz' h => flip1_involutive.injective <| by
    rw [← cdriftMapO_reversible lb ub hwf c hz, h, cdriftMapO_reversible lb ub hwf c hz']

theorem cdriftO_volume (lb ub : Option ℝ) (hwf : wf1 lb ub) (c : ℝ) (A : Set (ℝ × ℝ)) (hA : MeasurableSet A) :
    volume (cdriftMapO lb ub c ⁻¹' A ∩ stripO lb ub) = volume (A ∩ cdriftMapO lb ub c '' stripO lb ub) := by
  have hm := cdriftMapO_measurable lb ub c
  let e := pieceE (boxBase lb ub) (boxBase lb ub + boxPeriod lb ub) c
  refine piecewise_measure volume (cdriftMapO lb ub c) (stripO lb ub) e (pieceE_mp _ _ c)
    (fun n => stripO lb ub ∩ {z | cdriftMapO lb ub c z = e n z}) ?_ ?_ (fun n z hz => hz.2)
    (cdriftMapO_injOn lb ub hwf c) A hA
  · intro n
    exact (stripO_measurable lb ub).inter (measurableSet_eq_fun hm (e n).measurable)
  · rw [← inter_iUnion]
    exact (inter_eq_left.2 fun z _ => mem_iUnion.2 (cdriftMapO_is_piece lb ub hwf c z)).symm

theorem cdriftO_map_restrict (lb ub : Option ℝ) (hwf : wf1 lb ub) (c : ℝ) :
    Measure.map (cdriftMapO lb ub c) (volume.restrict (stripO lb ub))
      = volume.restrict (cdriftMapO lb ub c '' stripO lb ub) := by
  ext A hA
  rw [Measure.map_apply (cdriftMapO_measurable lb ub c) hA, Measure.restrict_apply ((cdriftMapO_measurable lb ub c) hA),
    Measure.restrict_apply hA]
  exact cdriftO_volume lb ub hwf c A hA

/-- the lines through the bounds (and through 0 for an absent bound): a null set that contains the walls -/
def wallsO (lb ub : Option ℝ) : Set (ℝ × ℝ) := {z | z.1 = lb.getD 0} ∪ {z | z.1 = ub.getD 0}

theorem line_null (a : ℝ) : volume ({z : ℝ × ℝ | z.1 = a}) = 0 :=
  Measure.quasiMeasurePreserving_fst.preimage_null (Real.volume_singleton (a := a))

theorem wallsO_null (lb ub : Option ℝ) : volume (wallsO lb ub) = 0 :=
  measure_union_null (line_null _) (line_null _)

theorem wallsO_measurable (lb ub : Option ℝ) : MeasurableSet (wallsO lb ub) :=
  (measurableSet_eq_fun measurable_fst measurable_const).union (measurableSet_eq_fun measurable_fst measurable_const)

theorem mem_wallsO_of_inBox1 (lb ub : Option ℝ) (z : ℝ × ℝ) (hin : inBox1 lb ub z.1) (hn : z ∉ stripO lb ub) :
    z ∈ wallsO lb ub := by
  simp only [stripO, mem_ofPred_eq, strictlyInBox1, not_and_or, not_forall, not_lt] at hn
  rcases hn with ⟨l, hl, hle⟩ | ⟨u, hu, hle⟩
  · exact Or.inl (by simpa [hl] using le_antisymm hle (hin.1 l hl))
  · exact Or.inr (by simpa [hu] using le_antisymm (hin.2 u hu) hle)

theorem cdriftO_image_ae (lb ub : Option ℝ) (hwf : wf1 lb ub) (c : ℝ) :
    (cdriftMapO lb ub c '' stripO lb ub : Set (ℝ × ℝ)) =ᵐ[volume] stripO lb ub := by
  rw [ae_eq_set]
  constructor
  · -- image minus interior: on a wall
    refine measure_mono_null ?_ (wallsO_null lb ub)
    rintro y ⟨⟨z, _, rfl⟩, hny⟩
    exact mem_wallsO_of_inBox1 lb ub _ (correctorR_inBox1 lb ub hwf _ _) hny
  · -- interior minus image: the flipped point is sent to a wall
    have hnull : volume (flip1 ⁻¹' (cdriftMapO lb ub c ⁻¹' wallsO lb ub ∩ stripO lb ub)) = 0 := by
      refine flip1_mp.quasiMeasurePreserving.preimage_null ?_
      rw [cdriftO_volume lb ub hwf c _ (wallsO_measurable lb ub)]
      exact measure_mono_null inter_subset_left (wallsO_null lb ub)
    refine measure_mono_null ?_ hnull
    rintro y ⟨hy, hny⟩
    have hfy : flip1 y ∈ stripO lb ub := hy
    -- `flip (Φ (flip y))` is a pre-image of `y`
    let x := cdriftMapO lb ub c (flip1 y)
    have hΦ : cdriftMapO lb ub c (flip1 x) = y := (cdriftMapO_reversible lb ub hwf c hfy).trans (flip1_involutive y)
    exact ⟨mem_wallsO_of_inBox1 lb ub x (correctorR_inBox1 lb ub hwf _ _) fun hxs => hny ⟨flip1 x, hxs, hΦ⟩, hfy⟩

theorem cdriftO_mp_strip (lb ub : Option ℝ) (hwf : wf1 lb ub) (c : ℝ) :
    MeasurePreserving (cdriftMapO lb ub c) (volume.restrict (stripO lb ub)) (volume.restrict (stripO lb ub)) := by
  refine ⟨cdriftMapO_measurable lb ub c, ?_⟩
  rw [cdriftO_map_restrict lb ub hwf c]
  exact Measure.restrict_congr_set (cdriftO_image_ae lb ub hwf c)

theorem cdriftMap_is_piece (l u c : ℝ) (hlu : l < u) (z : ℝ × ℝ) : ∃ n, cdriftMap l u c z = pieceE l u c n z := by
  have h := cdriftMapO_is_piece _ _ (wf1_two hlu) c z
  simp only [boxBase, boxPeriod, add_sub_cancel] at h
  exact h

theorem cdriftMap_injOn (l u c : ℝ) (hlu : l < u) : Set.InjOn (cdriftMap l u c) (openStrip l u) :=
  stripO_two l u ▸ cdriftMapO_injOn _ _ (wf1_two hlu) c

theorem cdrift_volume (l u c : ℝ) (hlu : l < u) (A : Set (ℝ × ℝ)) (hA : MeasurableSet A) :
    volume (cdriftMap l u c ⁻¹' A ∩ openStrip l u) = volume (A ∩ cdriftMap l u c '' openStrip l u) :=
  stripO_two l u ▸ cdriftO_volume _ _ (wf1_two hlu) c A hA

theorem cdrift_map_restrict (l u c : ℝ) (hlu : l < u) :
    Measure.map (cdriftMap l u c) (volume.restrict (openStrip l u))
      = volume.restrict (cdriftMap l u c '' openStrip l u) :=
  stripO_two l u ▸ cdriftO_map_restrict _ _ (wf1_two hlu) c

theorem cdrift_image_ae (l u c : ℝ) (hlu : l < u) :
    (cdriftMap l u c '' openStrip l u : Set (ℝ × ℝ)) =ᵐ[volume] openStrip l u :=
  stripO_two l u ▸ cdriftO_image_ae _ _ (wf1_two hlu) c

theorem cdrift_mp_strip (l u c : ℝ) (hlu : l < u) :
    MeasurePreserving (cdriftMap l u c) (volume.restrict (openStrip l u)) (volume.restrict (openStrip l u)) :=
  stripO_two l u ▸ cdriftO_mp_strip _ _ (wf1_two hlu) c

end HmcVerif
