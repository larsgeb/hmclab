import HmcVerif.Real.Grad
import Mathlib.Analysis.SpecialFunctions.ExpDeriv
import Mathlib.Analysis.SpecialFunctions.Log.Deriv
import Mathlib.Tactic.FieldSimp
open Finset Matrix
namespace HmcVerif

section composite
variable {ι₁ ι₂ : Type} [Fintype ι₁] [Fintype ι₂]

/-- CompositeDistribution: misfit = sum over consecutive coordinate blocks, gradients stacked -/
theorem isGradAt_composite (m₁ : (ι₁ → ℝ) → ℝ) (m₂ : (ι₂ → ℝ) → ℝ) (g₁ : ι₁ → ℝ) (g₂ : ι₂ → ℝ)
    (x : (ι₁ ⊕ ι₂) → ℝ) (h₁ : IsGradAt m₁ g₁ (fun i => x (Sum.inl i))) (h₂ : IsGradAt m₂ g₂ (fun i => x (Sum.inr i))) :
    IsGradAt (fun y : (ι₁ ⊕ ι₂) → ℝ => m₁ (fun i => y (Sum.inl i)) + m₂ (fun i => y (Sum.inr i))) (Sum.elim g₁ g₂) x := by
  classical
  exact ((h₁.reindex Sum.inl).add (h₂.reindex Sum.inr)).congr (fun _ => rfl)
    ((sum_smul_single _).symm.trans (Fintype.sum_sum_type _))
end composite

section mixture
variable {ι κ : Type} [Fintype ι] [Fintype κ]

/-- Mixture: `−log Σⱼ exp(cⱼ − mⱼ)` (`cⱼ = log wⱼ`) has gradient `Σⱼ pⱼ gⱼ / Σⱼ pⱼ`,
    `pⱼ = exp(cⱼ − mⱼ(x))` -/
theorem isGradAt_mixture [Nonempty κ] (c : κ → ℝ) (ms : κ → (ι → ℝ) → ℝ) (gs : κ → ι → ℝ) (x : ι → ℝ)
    (h : ∀ j, IsGradAt (ms j) (gs j) x) :
    IsGradAt (fun y => -Real.log (∑ j, Real.exp (c j - ms j y)))
      (fun i => (∑ j, Real.exp (c j - ms j x) * gs j i) / (∑ j, Real.exp (c j - ms j x))) x := by
  have hpos : 0 < ∑ j, Real.exp (c j - ms j x) := sum_pos (fun j _ => Real.exp_pos _) univ_nonempty
  refine ((IsGradAt.sum univ fun j _ => ((h j).const_sub (c j)).scomp (Real.hasDerivAt_exp _)).scomp
    (Real.hasDerivAt_log hpos.ne')).neg.congr (fun _ => rfl) (funext fun i => ?_)
  simp only [Pi.neg_apply, Pi.smul_apply, Finset.sum_apply, smul_eq_mul, mul_neg, sum_neg_distrib, neg_neg,
    div_eq_inv_mul]
end mixture

section logt
variable {ι : Type} [Fintype ι]

/-- TransformToLogSpace: `m(x) = inner(log_b x) − Σᵢ log((1/xᵢ)/log b)`; at a positive point its gradient is
    `ginᵢ · (1/xᵢ)/log b + 1/xᵢ`. `Real.log` is `log |·|`, so for a base below one this is the code's
    `log(abs(J))` (Transforms.py, `misfit`): only `log b ≠ 0` is asked of the base. -/
theorem isGradAt_logTransform (inner : (ι → ℝ) → ℝ) (gin : ι → ℝ) (b : ℝ) (hb : Real.log b ≠ 0) (x : ι → ℝ)
    (hx : ∀ i, 0 < x i) (hin : IsGradAt inner gin (fun i => Real.log (x i) / Real.log b)) :
    IsGradAt (fun y => inner (fun i => Real.log (y i) / Real.log b) - ∑ i, Real.log ((1 / y i) / Real.log b))
      (fun i => gin i * ((1 / x i) / Real.log b) + 1 / x i) x := by
  classical
  have h1 := hin.comp (f := fun y i => Real.log (y i) / Real.log b) fun i =>
    (isGradAt_coord i x).scomp ((Real.hasDerivAt_log (hx i).ne').div_const (Real.log b))
  have h2 := isGradAt_separable (fun _ s => Real.log ((1 / s) / Real.log b)) (fun i => -(1 / x i)) x fun i => by
    have hxi := (hx i).ne'
    have := ((hasDerivAt_inv hxi).div_const (Real.log b)).log (div_ne_zero (inv_ne_zero hxi) hb)
    simp only [← one_div] at this
    refine this.congr_deriv ?_
    field_simp
  refine (h1.sub h2).congr (fun _ => rfl) ?_
  simp only [smul_smul, sum_smul_single]
  funext i
  simp only [Pi.sub_apply, sub_neg_eq_add, one_div]
end logt

end HmcVerif
