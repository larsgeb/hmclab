import Mathlib.Tactic.NormNum
import Mathlib.Data.Real.Basic
/-
  The model writes its constants as scientific literals (`0.5`, `1.0`, `2.0`) so that one
  definition serves `Float` and `ℝ`. Over ℝ they are the expected rationals. Rewrite with these before
  `ring`: on a goal that still holds a whole-number literal such as `(1.0 : ℝ)` its proof term fails in the
  kernel (`Mathlib.Meta.NormNum.IsNat.of_raw`, application type mismatch).
-/
namespace HmcVerif
theorem lit_zero : (0.0 : ℝ) = 0 := by norm_num
theorem lit_half : (0.5 : ℝ) = 1 / 2 := by norm_num
theorem lit_one : (1.0 : ℝ) = 1 := by norm_num
theorem lit_two : (2.0 : ℝ) = 2 := by norm_num
theorem lit_seven : (7.0 : ℝ) = 7 := by norm_num
theorem lit_eleven : (11.0 : ℝ) = 11 := by norm_num
end HmcVerif
