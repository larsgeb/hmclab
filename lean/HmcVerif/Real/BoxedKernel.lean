import HmcVerif.Real.FoldVolume
import HmcVerif.Real.Kernel
import Mathlib.MeasureTheory.Constructions.Pi
/-
  Boxed targets (C01 / C04): every sub-step of a trajectory - boxed drift, kick - and the momentum flip
  preserve Lebesgue measure restricted to the open box, and every sub-step is reversed by a flip from a start
  in the open box; so (`Real/Kernel.lean`) a palindromic trajectory followed by a flip is an involution almost
  everywhere.
  * One coordinate, two-sided box `l < q < u` (`step1`, `traj1`): directly from `Real/FoldVolume.lean`.
  * Any dimension, Unit / Diagonal metric, any kind of box (`stepBox`, `trajBox` = the model's own
    `stepOp (diagVel w) grad (boxRefl lb ub)` read on `V × V`; `C01.boxRefl`, `C01.diagVel`, `C01.WellFormed`, `C01.flip`
    are the terms in which `Props/C01.lean` states the boxed case): the boxed drift acts coordinate by coordinate,
    as the product of the one-coordinate maps; a kick leaves positions alone.
-/
open MeasureTheory Set ENNReal
namespace HmcVerif

def kick1 (g : ℝ → ℝ) (c : ℝ) (z : ℝ × ℝ) : ℝ × ℝ := (z.1, z.2 - c * g z.1)

/-- a sub-step on one boxed coordinate; `w` is the inverse mass of the coordinate -/
noncomputable def step1 (l u w : ℝ) (g : ℝ → ℝ) (z : ℝ × ℝ) : Op ℝ → ℝ × ℝ
  | .drift c => cdriftMap l u (c * w) z
  | .kick c => kick1 g c z

noncomputable def traj1 (l u w : ℝ) (g : ℝ → ℝ) (ops : List (Op ℝ)) (z : ℝ × ℝ) : ℝ × ℝ :=
  ops.foldl (step1 l u w g) z

theorem kick1_mp (g : ℝ → ℝ) (hg : Measurable g) (c : ℝ) : MeasurePreserving (kick1 g c) (volume : Measure (ℝ × ℝ)) volume := by
  change MeasurePreserving (fun z : ℝ × ℝ => (z.1, z.2 - c * g z.1)) (volume.prod volume) (volume.prod volume)
  simpa only [sub_eq_add_neg] using
    measurePreserving_shear_snd (volume : Measure ℝ) (volume : Measure ℝ) (fun q => -(c * g q)) (hg.const_mul c).neg

/-- flip and kick leave positions alone, so they preserve Lebesgue measure on the strip as well -/
theorem flip1_mp_strip (l u : ℝ) :
    MeasurePreserving flip1 (volume.restrict (openStrip l u)) (volume.restrict (openStrip l u)) :=
  flip1_mp.restrict_preimage (openStrip_measurable l u)

theorem kick1_mp_strip (l u : ℝ) (g : ℝ → ℝ) (hg : Measurable g) (c : ℝ) :
    MeasurePreserving (kick1 g c) (volume.restrict (openStrip l u)) (volume.restrict (openStrip l u)) :=
  (kick1_mp g hg c).restrict_preimage (openStrip_measurable l u)

theorem step1_mp_strip (l u w : ℝ) (hlu : l < u) (g : ℝ → ℝ) (hg : Measurable g) (o : Op ℝ) :
    MeasurePreserving (fun z => step1 l u w g z o) (volume.restrict (openStrip l u)) (volume.restrict (openStrip l u)) := by
  cases o with
  | drift c => exact cdrift_mp_strip l u (c * w) hlu
  | kick c => exact kick1_mp_strip l u g hg c

theorem traj1_mp_strip (l u w : ℝ) (hlu : l < u) (g : ℝ → ℝ) (hg : Measurable g) (ops : List (Op ℝ)) :
    MeasurePreserving (traj1 l u w g ops) (volume.restrict (openStrip l u)) (volume.restrict (openStrip l u)) :=
  foldl_measurePreserving (step1_mp_strip l u w hlu g hg) ops

theorem step1_reversible (l u w : ℝ) (hlu : l < u) (g : ℝ → ℝ) (o : Op ℝ) (z : ℝ × ℝ) (hz : z ∈ openStrip l u) :
    step1 l u w g (flip1 (step1 l u w g z o)) o = flip1 z := by
  cases o with
  | drift c => exact cdrift1_reversible_box l u (c * w) z.1 z.2 hlu hz.1 hz.2
  | kick c => simp only [step1, kick1, flip1]; ext <;> simp

theorem pathGood_ae (l u w : ℝ) (hlu : l < u) (g : ℝ → ℝ) (hg : Measurable g) (ops : List (Op ℝ)) :
    ∀ᵐ z ∂(volume.restrict (openStrip l u)),
      Split.PathGood (step1 l u w g) (fun s _ => s ∈ openStrip l u) ops z :=
  pathGood_ae_of (step1_mp_strip l u w hlu g hg) (ae_restrict_mem (openStrip_measurable l u)) ops

theorem psi1_involution_ae (l u w : ℝ) (hlu : l < u) (g : ℝ → ℝ) (hg : Measurable g) (ops : List (Op ℝ))
    (hp : ops.reverse = ops) :
    ∀ᵐ z ∂(volume.restrict (openStrip l u)),
      flip1 (traj1 l u w g ops (flip1 (traj1 l u w g ops z))) = z := by
  filter_upwards [palindrome_reversible_ae (step1_mp_strip l u w hlu g hg) (ae_restrict_mem (openStrip_measurable l u))
    flip1 (fun o z hz => step1_reversible l u w hlu g o z hz) ops hp] with z hz
  rw [traj1, traj1, hz, flip1_involutive]

namespace C01

section
variable {V : Type} [AddCommGroup V] [Module ℝ V]

def flip (s : PS V) : PS V := { q := s.q, p := -s.p }
end

section box
variable {ι : Type}

/-- the corrector on vectors: `corrector1` (one reflection per wall, then the fold) on every coordinate -/
noncomputable def boxRefl (lb ub : ι → Option ℝ) (s : PS (ι → ℝ)) : PS (ι → ℝ) :=
  { q := fun i => (correctorR (lb i) (ub i) (s.q i) (s.p i)).1,
    p := fun i => (correctorR (lb i) (ub i) (s.q i) (s.p i)).2 }

/-- velocity of a diagonal metric (`w i = 1 / m i`; Unit is `w = 1`) -/
def diagVel (w : ι → ℝ) (p : ι → ℝ) : ι → ℝ := fun i => w i * p i

def WellFormed (lb ub : ι → Option ℝ) : Prop := ∀ i l u, lb i = some l → ub i = some u → l < u

theorem boxed_drift_eq (lb ub : ι → Option ℝ) (w : ι → ℝ) (grad : (ι → ℝ) → (ι → ℝ)) (s : PS (ι → ℝ)) (c : ℝ) :
    stepOp (diagVel w) grad (boxRefl lb ub) s (.drift c)
      = ⟨fun i => (cdrift1 (lb i) (ub i) (c * w i) (s.q i) (s.p i)).1,
         fun i => (cdrift1 (lb i) (ub i) (c * w i) (s.q i) (s.p i)).2⟩ := by
  simp only [stepOp, boxRefl, cdrift1, diagVel, Pi.add_apply, Pi.smul_apply, smul_eq_mul, mul_assoc]

/-- `Props/C01.lean` writes the hypothesis as the predicate `C01.Regular lb ub s o` -/
theorem boxed_step_reversible_of (lb ub : ι → Option ℝ) (hwf : WellFormed lb ub) (w : ι → ℝ) (grad : (ι → ℝ) → (ι → ℝ))
    (o : Op ℝ) (s : PS (ι → ℝ)) (hin : o.isDrift = true → ∀ i, strictlyInBox1 (lb i) (ub i) (s.q i)) :
    stepOp (diagVel w) grad (boxRefl lb ub) (flip (stepOp (diagVel w) grad (boxRefl lb ub) s o)) o = flip s := by
  cases o with
  | drift c =>
    have key : ∀ i, cdrift1 (lb i) (ub i) (c * w i) (cdrift1 (lb i) (ub i) (c * w i) (s.q i) (s.p i)).1
        (-(cdrift1 (lb i) (ub i) (c * w i) (s.q i) (s.p i)).2) = (s.q i, -s.p i) :=
      fun i => cdrift1_reversible _ _ _ _ _ (hwf i) (hin rfl i)
    rw [boxed_drift_eq, boxed_drift_eq]
    simp only [flip, Pi.neg_apply, key]
    rfl
  | kick c => simp only [stepOp, flip, neg_sub, sub_sub_cancel_left]
end box

end C01

variable {ι : Type} [Fintype ι]

def openBox (lb ub : ι → Option ℝ) : Set (Vec ι × Vec ι) := {x | ∀ i, strictlyInBox1 (lb i) (ub i) (x.1 i)}

noncomputable def stepBox (lb ub : ι → Option ℝ) (w : ι → ℝ) (g : Vec ι → Vec ι) (x : Vec ι × Vec ι) (o : Op ℝ) : Vec ι × Vec ι :=
  toProd (stepOp (C01.diagVel w) g (C01.boxRefl lb ub) (ofProd x) o)

noncomputable def trajBox (lb ub : ι → Option ℝ) (w : ι → ℝ) (g : Vec ι → Vec ι) (ops : List (Op ℝ)) (x : Vec ι × Vec ι) : Vec ι × Vec ι :=
  toProd (runOps (C01.diagVel w) g (C01.boxRefl lb ub) ops (ofProd x))

omit [Fintype ι] in
theorem trajBox_eq_foldl (lb ub : ι → Option ℝ) (w : ι → ℝ) (g : Vec ι → Vec ι) (ops : List (Op ℝ)) (x : Vec ι × Vec ι) :
    trajBox lb ub w g ops x = ops.foldl (stepBox lb ub w g) x :=
  toProd_runOps _ _ _ ops x

/-- phase space read coordinate by coordinate: `i ↦ (q i, p i)` against `(q, p)` -/
noncomputable def eN : (ι → ℝ × ℝ) ≃ᵐ Vec ι × Vec ι := MeasurableEquiv.arrowProdEquivProdArrow ℝ ℝ ι

/-- the boxed drift in these coordinates: the one-coordinate maps side by side -/
noncomputable def driftPi (lb ub : ι → Option ℝ) (w : ι → ℝ) (c : ℝ) (a : ι → ℝ × ℝ) : ι → ℝ × ℝ :=
  fun i => cdriftMapO (lb i) (ub i) (c * w i) (a i)

omit [Fintype ι] in
theorem stepBox_drift (lb ub : ι → Option ℝ) (w : ι → ℝ) (g : Vec ι → Vec ι) (c : ℝ) :
    (fun x => stepBox lb ub w g x (Op.drift c)) = (eN : (ι → ℝ × ℝ) → Vec ι × Vec ι) ∘ driftPi lb ub w c ∘ (eN (ι := ι)).symm := by
  funext x
  rw [stepBox, C01.boxed_drift_eq]
  rfl

omit [Fintype ι] in
theorem stepBox_kick (lb ub : ι → Option ℝ) (w : ι → ℝ) (g : Vec ι → Vec ι) (c : ℝ) :
    (fun x => stepBox lb ub w g x (Op.kick c)) = fun x : Vec ι × Vec ι => (x.1, x.2 - c • g x.1) := rfl

omit [Fintype ι] in
theorem eN_preimage_box (lb ub : ι → Option ℝ) :
    (eN : (ι → ℝ × ℝ) → Vec ι × Vec ι) ⁻¹' openBox lb ub = univ.pi (fun i => stripO (lb i) (ub i)) :=
  Set.ext fun _ => ⟨fun h i _ => h i, fun h i => h i (mem_univ i)⟩

theorem openBox_measurable (lb ub : ι → Option ℝ) : MeasurableSet (openBox lb ub) := by
  rw [← (eN (ι := ι)).symm_preimage_preimage (openBox lb ub), eN_preimage_box]
  exact eN.symm.measurable (MeasurableSet.univ_pi fun i => stripO_measurable _ _)

theorem eN_mp_box (lb ub : ι → Option ℝ) :
    MeasurePreserving (eN : (ι → ℝ × ℝ) → Vec ι × Vec ι)
      ((volume : Measure (ι → ℝ × ℝ)).restrict (univ.pi fun i => stripO (lb i) (ub i)))
      (((volume : Measure (Vec ι)).prod volume).restrict (openBox lb ub)) := by
  rw [← eN_preimage_box]
  exact (volume_measurePreserving_arrowProdEquivProdArrow ℝ ℝ ι).restrict_preimage (openBox_measurable lb ub)

theorem driftPi_mp (lb ub : ι → Option ℝ) (w : ι → ℝ) (hwf : C01.WellFormed lb ub) (c : ℝ) :
    MeasurePreserving (driftPi lb ub w c)
      ((volume : Measure (ι → ℝ × ℝ)).restrict (univ.pi fun i => stripO (lb i) (ub i)))
      ((volume : Measure (ι → ℝ × ℝ)).restrict (univ.pi fun i => stripO (lb i) (ub i))) := by
  rw [volume_pi, Measure.restrict_pi_pi]
  exact measurePreserving_pi _ _ fun i => cdriftO_mp_strip (lb i) (ub i) (hwf i) (c * w i)

theorem stepBox_mp (lb ub : ι → Option ℝ) (w : ι → ℝ) (hwf : C01.WellFormed lb ub) (g : Vec ι → Vec ι) (hg : Measurable g) (o : Op ℝ) :
    MeasurePreserving (fun x => stepBox lb ub w g x o)
      (((volume : Measure (Vec ι)).prod volume).restrict (openBox lb ub))
      (((volume : Measure (Vec ι)).prod volume).restrict (openBox lb ub)) := by
  cases o with
  | drift c =>
    rw [stepBox_drift]
    exact (eN_mp_box lb ub).comp ((driftPi_mp lb ub w hwf c).comp ((eN_mp_box lb ub).symm eN))
  | kick c =>
    rw [stepBox_kick]
    exact (kick_measurePreserving g hg c).restrict_preimage (openBox_measurable lb ub)

theorem trajBox_mp (lb ub : ι → Option ℝ) (w : ι → ℝ) (hwf : C01.WellFormed lb ub) (g : Vec ι → Vec ι) (hg : Measurable g) (ops : List (Op ℝ)) :
    MeasurePreserving (trajBox lb ub w g ops)
      (((volume : Measure (Vec ι)).prod volume).restrict (openBox lb ub))
      (((volume : Measure (Vec ι)).prod volume).restrict (openBox lb ub)) := by
  rw [funext (trajBox_eq_foldl lb ub w g ops)]
  exact foldl_measurePreserving (stepBox_mp lb ub w hwf g hg) ops

def flipN (x : Vec ι × Vec ι) : Vec ι × Vec ι := (x.1, -x.2)

theorem flipN_mp :
    MeasurePreserving (flipN : Vec ι × Vec ι → Vec ι × Vec ι) ((volume : Measure (Vec ι)).prod volume)
      ((volume : Measure (Vec ι)).prod volume) :=
  (MeasurePreserving.id (volume : Measure (Vec ι))).prod (Measure.measurePreserving_neg (volume : Measure (Vec ι)))

theorem flipN_mp_box (lb ub : ι → Option ℝ) :
    MeasurePreserving (flipN : Vec ι × Vec ι → Vec ι × Vec ι)
      (((volume : Measure (Vec ι)).prod volume).restrict (openBox lb ub))
      (((volume : Measure (Vec ι)).prod volume).restrict (openBox lb ub)) :=
  flipN_mp.restrict_preimage (openBox_measurable lb ub)

theorem trajBox_reversible_ae (lb ub : ι → Option ℝ) (w : ι → ℝ) (hwf : C01.WellFormed lb ub) (g : Vec ι → Vec ι) (hg : Measurable g)
    (ops : List (Op ℝ)) (hp : ops.reverse = ops) :
    ∀ᵐ x ∂(((volume : Measure (Vec ι)).prod volume).restrict (openBox lb ub)),
      trajBox lb ub w g ops (flipN (trajBox lb ub w g ops x)) = flipN x := by
  simp only [trajBox_eq_foldl]
  -- `ofProd (flipN x)` is `C01.flip (ofProd x)` by `rfl`, so the lemma about `PS` transfers through `toProd`
  exact palindrome_reversible_ae (stepBox_mp lb ub w hwf g hg) (ae_restrict_mem (openBox_measurable lb ub)) flipN
    (fun o x hx => congrArg toProd (C01.boxed_step_reversible_of lb ub hwf w g o (ofProd x) fun _ => hx)) ops hp

theorem psiN_involution_ae (lb ub : ι → Option ℝ) (w : ι → ℝ) (hwf : C01.WellFormed lb ub) (g : Vec ι → Vec ι) (hg : Measurable g)
    (ops : List (Op ℝ)) (hp : ops.reverse = ops) :
    ∀ᵐ x ∂(((volume : Measure (Vec ι)).prod volume).restrict (openBox lb ub)),
      flipN (trajBox lb ub w g ops (flipN (trajBox lb ub w g ops x))) = x := by
  filter_upwards [trajBox_reversible_ae lb ub w hwf g hg ops hp] with x hx
  rw [hx]
  exact Prod.ext rfl (neg_neg _)

end HmcVerif
