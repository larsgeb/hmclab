import HmcVerif.Model.BoxTree
import HmcVerif.Model.DistAlg
import Mathlib.Data.Real.Basic
namespace HmcVerif
namespace BoxTree

def inside1 (b : B1 ℝ) (x : ℝ) : Prop := (∀ l, b.1 = some l → l ≤ x) ∧ (∀ u, b.2 = some u → x ≤ u)

theorem optMax_le_iff {α : Type} [LinearOrder α] (a b : Option α) (x : α) :
    (∀ l, optMax a b = some l → l ≤ x) ↔ (∀ l, a = some l → l ≤ x) ∧ (∀ l, b = some l → l ≤ x) := by
  cases a with
  | none => exact (and_iff_right fun _ h => nomatch h).symm
  | some a =>
    cases b with
    | none => exact (and_iff_left fun _ h => nomatch h).symm
    | some b => simp only [optMax, ← max_def_lt, Option.some.injEq, forall_eq', max_le_iff]
/-- `optMin` is `optMax` in the dual order -/
theorem le_optMin_iff (a b : Option ℝ) (x : ℝ) :
    (∀ u, optMin a b = some u → x ≤ u) ↔ (∀ u, a = some u → x ≤ u) ∧ (∀ u, b = some u → x ≤ u) :=
  optMax_le_iff (α := ℝᵒᵈ) a b x

theorem inside1_meet (a b : B1 ℝ) (x : ℝ) : inside1 (meet a b) x ↔ inside1 a x ∧ inside1 b x := by
  unfold inside1 meet
  rw [optMax_le_iff, le_optMin_iff]
  exact and_and_and_comm

mutual
/-- the support as the parts define it: every box at every depth is respected -/
def support : E ℝ → (Nat → ℝ) → Prop
  | .leaf d b, x => ∀ i, i < d → inside1 (b i) (x i)
  | .additive d own parts, x => (∀ i, i < d → inside1 (own i) (x i)) ∧ supportAll parts x
  | .composite own parts, x => (∀ i, i < dims parts → inside1 (own i) (x i)) ∧ supportBlocks parts x
def supportAll : List (E ℝ) → (Nat → ℝ) → Prop
  | [], _ => True
  | p :: ps, x => support p x ∧ supportAll ps x
def supportBlocks : List (E ℝ) → (Nat → ℝ) → Prop
  | [], _ => True
  | p :: ps, x => support p x ∧ supportBlocks ps (fun i => x (i + dim p))
end

mutual
/-- the parts of an additive node have the node's dimension; otherwise `support` of a part ranges over
    `i < dim p` while `eboxAll` is read at `i < d` -/
def WellDim : E ℝ → Prop
  | .leaf _ _ => True
  | .additive d _ parts => wellAll d parts
  | .composite _ parts => wellBlocks parts
def wellAll : Nat → List (E ℝ) → Prop
  | _, [] => True
  | d, p :: ps => dim p = d ∧ WellDim p ∧ wellAll d ps
def wellBlocks : List (E ℝ) → Prop
  | [] => True
  | p :: ps => WellDim p ∧ wellBlocks ps
end

def insideUpTo (n : Nat) (b : Nat → B1 ℝ) (x : Nat → ℝ) : Prop := ∀ i, i < n → inside1 (b i) (x i)

theorem insideUpTo_meet (n : Nat) (a b : Nat → B1 ℝ) (x : Nat → ℝ) :
    insideUpTo n (fun i => meet (a i) (b i)) x ↔ insideUpTo n a x ∧ insideUpTo n b x := by
  simp only [insideUpTo, inside1_meet, imp_and, forall_and]

theorem forall_lt_add {m n : Nat} {P : Nat → Prop} :
    (∀ i, i < m + n → P i) ↔ (∀ i, i < m → P i) ∧ (∀ i, i < n → P (i + m)) := by
  -- split `i < m + n` at `m`; the upper part is re-indexed by `i ↦ i + m`
  refine ⟨fun h => ⟨fun i hi => h i (Nat.lt_add_right n hi),
    fun i hi => h (i + m) (Nat.add_comm m n ▸ Nat.add_lt_add_right hi m)⟩, fun ⟨h1, h2⟩ i hi => ?_⟩
  rcases lt_or_ge i m with c | c
  · exact h1 i c
  · exact Nat.sub_add_cancel c ▸ h2 (i - m) (Nat.sub_lt_left_of_lt_add c hi)

mutual
/-- **bounds in force = intersection of all bounds, at every nesting depth**: a point satisfies the
    collapsed per-coordinate bounds of an expression iff it lies in every box of every part, however
    BayesRule and Composite nodes are nested -/
theorem ebox_support : ∀ (e : E ℝ) (x : Nat → ℝ), WellDim e → (insideUpTo (dim e) (ebox e) x ↔ support e x)
  | .leaf _ _, _, _ => Iff.rfl
  | .additive d own parts, x, h => eboxAll_support parts d x h own
  | .composite own parts, x, h =>
      (insideUpTo_meet _ own (eboxBlock parts) x).trans (and_congr_right' (eboxBlock_support parts x h))
theorem eboxAll_support : ∀ (ps : List (E ℝ)) (d : Nat) (x : Nat → ℝ), wellAll d ps → ∀ acc : Nat → B1 ℝ,
    ((∀ i, i < d → inside1 (eboxAll ps i (acc i)) (x i)) ↔ (∀ i, i < d → inside1 (acc i) (x i)) ∧ supportAll ps x)
  | [], _, x, _, _ => (and_iff_left (by trivial : supportAll [] x)).symm
  | p :: ps, d, x, ⟨hd, hp, hps⟩, acc => by
      simp only [eboxAll, supportAll]
      rw [eboxAll_support ps d x hps (fun i => meet (acc i) (ebox p i)), ← ebox_support p x hp, hd]
      exact (and_congr_left' (insideUpTo_meet d acc (ebox p) x)).trans and_assoc
theorem eboxBlock_support : ∀ (ps : List (E ℝ)) (x : Nat → ℝ), wellBlocks ps →
    ((∀ i, i < dims ps → inside1 (eboxBlock ps i) (x i)) ↔ supportBlocks ps x)
  | [], x, _ => iff_of_true (fun i hi => absurd hi (Nat.not_lt_zero i)) (by trivial)
  | p :: ps, x, ⟨hp, hps⟩ => by
      simp only [dims, supportBlocks]
      rw [← ebox_support p x hp, ← eboxBlock_support ps (fun i => x (i + dim p)) hps, forall_lt_add]
      refine and_congr (forall₂_congr fun i hi => ?_) (forall₂_congr fun i _ => ?_)
      · rw [eboxBlock, if_pos hi]
      · rw [eboxBlock, if_neg (Nat.not_lt_of_le (Nat.le_add_left _ _)), Nat.add_sub_cancel]
end

/-- non-vacuity: BayesRule([Composite([Uniform(0,1), unbounded]), unbounded]) - the posterior inherits the
    prior's bound on coordinate 0 from two levels down -/
def priorOverLikelihood : E ℝ :=
  .additive 2 (fun _ => (none, none))
    [.composite (fun _ => (none, none)) [.leaf 1 (fun _ => (some 0, some 1)), .leaf 1 (fun _ => (none, none))],
     .leaf 2 (fun _ => (none, none))]
example : WellDim priorOverLikelihood := by simp [priorOverLikelihood, WellDim, wellAll, wellBlocks, dim, dims]
example : ebox priorOverLikelihood 0 = (some 0, some 1) ∧ ebox priorOverLikelihood 1 = (none, none) := ⟨rfl, rfl⟩

end BoxTree

/-! `Dist.outside1` (the test `misfit_bounds` performs) and `Dist.maxLower`/`Dist.minUpper` (`collapse_bounds`)
    are the flat-list spelling of `inside1` and `meet`. -/
namespace Dist
open BoxTree

theorem maxLower_eq_optMax {α : Type} [LT α] [DecidableLT α] (a b : Option α) : maxLower a b = optMax a b := by
  cases a <;> cases b <;> rfl
theorem minUpper_eq_optMin {α : Type} [LT α] [DecidableLT α] (a b : Option α) : minUpper a b = optMin a b := by
  cases a <;> cases b <;> rfl

theorem outside1_iff (lb ub : Option ℝ) (x : ℝ) :
    outside1 lb ub x = true ↔ (∃ l, lb = some l ∧ x < l) ∨ (∃ u, ub = some u ∧ u < x) := by
  unfold outside1
  rw [Bool.or_eq_true]
  refine or_congr ?_ ?_
  · cases lb <;> simp
  · cases ub <;> simp

theorem outside1_iff_not_inside1 (lb ub : Option ℝ) (x : ℝ) : outside1 lb ub x = true ↔ ¬ inside1 (lb, ub) x := by
  simp only [outside1_iff, inside1, not_and_or, not_forall, not_le, exists_prop]
end Dist
end HmcVerif
