import HmcVerif.Model.Async
/-
  Theory of the asynchronous process model (Model/Async.lean), for an arbitrary channel capacity
  `cap` (unbounded, bounded, or zero = rendezvous):
  * a step of a process rewrites its own program and store and one channel cell, and is enabled by a
    condition that no step of another process destroys (`Step`, `Step.of_step`); hence steps of
    different processes commute (`diamond`);
  * hence (random descent) if one execution completes, *every* interleaving terminates, never
    deadlocks, and ends in that same state;
  * the projections of a choreography have a complete execution, ending in the sequential result
    with empty channels — the canonical schedule only ever sends into an empty channel whose
    receiver is waiting (`runSched_send_recv`), so it is enabled at every capacity.
  Core Lean only.
-/
namespace HmcVerif
namespace Async
variable {σ Msg : Type}

@[simp] theorem upd_same {β : Type} (f : Nat → β) (i : Nat) (v : β) : upd f i v i = v := if_pos rfl
theorem upd_other {β : Type} (f : Nat → β) (i j : Nat) (v : β) (h : j ≠ i) : upd f i v j = f j := if_neg h
theorem upd_comm {β : Type} (f : Nat → β) (i j : Nat) (a b : β) (h : i ≠ j) :
    upd (upd f i a) j b = upd (upd f j b) i a := by
  funext k
  by_cases hj : k = j
  · rw [hj, upd_same, upd_other _ _ _ _ h.symm, upd_same]
  · by_cases hi : k = i
    · rw [hi, upd_other _ _ _ _ h, upd_same, upd_same]
    · rw [upd_other _ _ _ _ hj, upd_other _ _ _ _ hi, upd_other _ _ _ _ hi, upd_other _ _ _ _ hj]
theorem upd_upd {β : Type} (f : Nat → β) (i : Nat) (a b : β) : upd (upd f i a) i b = upd f i b := by
  funext p
  by_cases hp : p = i
  · rw [hp, upd_same, upd_same]
  · rw [upd_other _ _ _ _ hp, upd_other _ _ _ _ hp, upd_other _ _ _ _ hp]
theorem upd_eq_of_eq_off {β : Type} {f g : Nat → β} {i : Nat} (h : ∀ p, p ≠ i → f p = g p) : upd f i (g i) = g := by
  funext p
  by_cases hp : p = i
  · rw [hp, upd_same]
  · rw [upd_other _ _ _ _ hp, h p hp]
theorem upd_self {β : Type} (f : Nat → β) (i : Nat) : upd f i (f i) = f := upd_eq_of_eq_off fun _ _ => rfl

@[simp] theorem upd2_same {β : Type} (c : Nat → Nat → β) (i j : Nat) (v : β) : upd2 c i j v i j = v := if_pos ⟨rfl, rfl⟩
theorem upd2_other {β : Type} (c : Nat → Nat → β) (i j a b : Nat) (v : β) (h : ¬ (a = i ∧ b = j)) :
    upd2 c i j v a b = c a b := if_neg h
theorem upd2_eq_of_eq_off {β : Type} {c d : Nat → Nat → β} {i j : Nat} (h : ∀ a b, ¬ (a = i ∧ b = j) → c a b = d a b) :
    upd2 c i j (d i j) = d := by
  funext a b
  by_cases hab : a = i ∧ b = j
  · rw [hab.1, hab.2, upd2_same]
  · rw [upd2_other _ _ _ _ _ _ hab, h a b hab]

def onCell {β : Type} (c : Nat → Nat → β) (p q : Nat) (g : β → β) : Nat → Nat → β := upd2 c p q (g (c p q))

theorem onCell_comm {β : Type} (c : Nat → Nat → β) {p q p' q' : Nat} {g g' : β → β}
    (h : p = p' → q = q' → g' (g (c p q)) = g (g' (c p q))) :
    onCell (onCell c p q g) p' q' g' = onCell (onCell c p' q' g') p q g := by
  funext a b
  unfold onCell
  by_cases h1 : a = p ∧ b = q <;> by_cases h2 : a = p' ∧ b = q'
  · obtain ⟨rfl, rfl⟩ := h1
    obtain ⟨rfl, rfl⟩ := h2
    simp only [upd2_same, h rfl rfl]
  · obtain ⟨rfl, rfl⟩ := h1
    simp only [upd2_same, upd2_other _ _ _ _ _ _ h2]
  · obtain ⟨rfl, rfl⟩ := h2
    simp only [upd2_same, upd2_other _ _ _ _ _ _ h1]
  · simp only [upd2_other _ _ _ _ _ _ h1, upd2_other _ _ _ _ _ _ h2]

theorem upd2_comm {β : Type} (c : Nat → Nat → β) (i j k l : Nat) (v w : β) (h : ¬ (i = k ∧ j = l)) :
    upd2 (upd2 c i j v) k l w = upd2 (upd2 c k l w) i j v :=
  onCell_comm c (g := fun _ => v) (g' := fun _ => w) fun h1 h2 => absurd ⟨h1, h2⟩ h
theorem upd2_upd2 {β : Type} (c : Nat → Nat → β) (i j : Nat) (v w : β) : upd2 (upd2 c i j v) i j w = upd2 c i j w := by
  funext a b
  by_cases h : a = i ∧ b = j
  · rw [h.1, h.2, upd2_same, upd2_same]
  · rw [upd2_other _ _ _ _ _ _ h, upd2_other _ _ _ _ _ _ h, upd2_other _ _ _ _ _ _ h]

theorem room_of_le (cap : Option Nat) (m n : Nat) (h : m ≤ n) (hr : room cap n = true) : room cap m = true := by
  cases cap with
  | none => rfl
  | some c => exact decide_eq_true (Nat.lt_of_le_of_lt h (of_decide_eq_true hr))

/-- `Step cap s i rest v ch`: process `i` can move in `s`; afterwards its program is `rest`, its store
    is `v` and the channels are `ch s.chan`. One constructor for each branch of `stepP`. What the
    step reads of `s` is `i`'s own program and store and, for a send, `sendOk`, for a receive, the
    head of the channel. -/
inductive Step (cap : Option Nat) (s : Sys σ Msg) (i : Nat) :
    List (Act σ Msg) → σ → ((Nat → Nat → List Msg) → Nat → Nat → List Msg) → Prop
  | loc {f rest} : s.prog i = Act.loc f :: rest → Step cap s i rest (f (s.store i)) id
  | send {j mk rest} : s.prog i = Act.send j mk :: rest → sendOk cap s i j = true →
      Step cap s i rest (s.store i) (onCell · i j (· ++ [mk (s.store i)]))
  | recv {j use rest m ms} : s.prog i = Act.recv j use :: rest → s.chan j i = m :: ms →
      Step cap s i rest (use (s.store i) m) (onCell · j i List.tail)

theorem stepP_eq_some_iff {cap : Option Nat} {s a : Sys σ Msg} {i : Nat} :
    stepP cap s i = some a ↔
      ∃ rest v ch, Step cap s i rest v ch ∧ a = ⟨upd s.prog i rest, upd s.store i v, ch s.chan⟩ := by
  constructor
  · intro h
    unfold stepP at h
    split at h
    · cases h
    · next f rest hp => cases h; exact ⟨_, _, _, .loc hp, rfl⟩
    · next j mk rest hp =>
      split at h
      · next hok =>
        cases h
        -- a send leaves the store alone
        exact ⟨_, _, _, .send hp hok, by rw [upd_self]; rfl⟩
      · cases h
    · next j use rest hp =>
      split at h
      · cases h
      · next m ms hc => cases h; exact ⟨_, _, _, .recv hp hc, by rw [onCell, hc]; rfl⟩
  · rintro ⟨rest, v, ch, h, rfl⟩
    cases h with
    | loc hp => simp only [stepP, hp]; rfl
    | send hp hok =>
      simp only [stepP, hp, hok, if_true]
      rw [upd_self]
      rfl
    | recv hp hc => simp only [stepP, hp, hc, onCell]; rfl

theorem step_frame {cap : Option Nat} {s b : Sys σ Msg} {k p : Nat} (h : stepP cap s k = some b) (hp : p ≠ k) :
    b.prog p = s.prog p ∧ b.store p = s.store p := by
  obtain ⟨_, _, _, -, rfl⟩ := stepP_eq_some_iff.mp h
  exact ⟨upd_other _ _ _ _ hp, upd_other _ _ _ _ hp⟩

theorem step_chan {cap : Option Nat} {s b : Sys σ Msg} {k : Nat} (h : stepP cap s k = some b) (p q : Nat) :
    b.chan p q = s.chan p q ∨ (p = k ∧ ∃ m, b.chan p q = s.chan p q ++ [m]) ∨
      (q = k ∧ ∃ m, s.chan p q = m :: b.chan p q) := by
  obtain ⟨_, _, _, hs, rfl⟩ := stepP_eq_some_iff.mp h
  cases hs with
  | loc _ => exact .inl rfl
  | @send j _ _ _ _ =>
    by_cases hc : p = k ∧ q = j
    · obtain ⟨rfl, rfl⟩ := hc
      exact .inr (.inl ⟨rfl, _, upd2_same _ _ _ _⟩)
    · exact .inl (upd2_other _ _ _ _ _ _ hc)
  | @recv j _ _ m _ _ hm =>
    by_cases hc : p = j ∧ q = k
    · obtain ⟨rfl, rfl⟩ := hc
      exact .inr (.inr ⟨rfl, m, by simp only [onCell, upd2_same, hm, List.tail_cons]⟩)
    · exact .inl (upd2_other _ _ _ _ _ _ hc)

variable (cap : Option Nat)

theorem sendOk_preserved (s b : Sys σ Msg) (i j k : Nat) (hik : i ≠ k) (hk : stepP cap s k = some b)
    (h : sendOk cap s i j = true) : sendOk cap b i j = true := by
  simp only [sendOk, Bool.or_eq_true, Bool.and_eq_true, List.isEmpty_iff] at h ⊢
  rcases step_chan hk i j with he | ⟨hik', -⟩ | ⟨rfl, m, hm⟩
  · rcases h with hroom | ⟨hemp, hrecv⟩
    · exact .inl (he ▸ hroom)
    · -- `j` waits at a receive from an empty channel, so it is not `j` that moved
      have hjk : j ≠ k := by
        rintro rfl
        unfold headIsRecvFrom at hrecv
        split at hrecv
        · next l _ _ hp =>
          rw [beq_iff_eq.mp hrecv] at hp
          simp only [stepP, hp, hemp, reduceCtorEq] at hk
        · cases hrecv
      rw [he, (step_frame hk hjk).1]
      exact .inr ⟨hemp, hrecv⟩
  · exact absurd hik' hik
  · -- the receiver has taken a message out of the channel: there is room
    rcases h with hroom | ⟨hemp, -⟩
    · exact .inl (room_of_le cap _ _ (by rw [hm]; exact Nat.le_succ _) hroom)
    · rw [hemp] at hm; cases hm

/-- a step of another process `j` leaves the step of `i` as it is: `j` changes neither `i`'s program
    nor its store, keeps `i`'s sends enabled, and can only append to a channel `i` receives from -/
theorem Step.of_step {cap : Option Nat} {s b : Sys σ Msg} {i j : Nat} {rest v ch} (hs : Step cap s i rest v ch)
    (hj : stepP cap s j = some b) (hij : i ≠ j) : Step cap b i rest v ch := by
  obtain ⟨hp, hst⟩ := step_frame hj hij
  cases hs with
  | loc h => rw [← hst]; exact .loc (hp.trans h)
  | send h hok => rw [← hst]; exact .send (hp.trans h) (sendOk_preserved cap s b i _ j hij hj hok)
  | recv h hc =>
    rw [← hst]
    rcases step_chan hj _ i with he | ⟨-, m', he⟩ | ⟨hij', -⟩
    · exact .recv (hp.trans h) (he.trans hc)
    · exact .recv (hp.trans h) (he.trans (congrArg (· ++ [m']) hc))
    · exact absurd hij' hij

/-- the channel changes of two processes commute: they concern different cells, unless one sends on
    the channel the other receives from, and appending at the tail and taking the head of a non-empty
    list commute -/
theorem Step.comm {cap : Option Nat} {s : Sys σ Msg} {i j : Nat} {ri v chi rj w chj} (hi : Step cap s i ri v chi)
    (hj : Step cap s j rj w chj) (hij : i ≠ j) : chj (chi s.chan) = chi (chj s.chan) := by
  cases hi with
  | loc _ => rfl
  | send _ _ =>
    cases hj with
    | loc _ => rfl
    | send _ _ => exact onCell_comm _ fun h _ => absurd h hij
    | recv _ hc => exact onCell_comm _ fun h h' => by subst h h'; rw [hc]; rfl
  | recv _ hc =>
    cases hj with
    | loc _ => rfl
    | send _ _ => exact onCell_comm _ fun h h' => by subst h h'; rw [hc]; rfl
    | recv _ _ => exact onCell_comm _ fun _ h => absurd h hij

theorem diamond (s a b : Sys σ Msg) (i j : Nat) (hij : i ≠ j) (hi : stepP cap s i = some a) (hj : stepP cap s j = some b) :
    ∃ c, stepP cap a j = some c ∧ stepP cap b i = some c := by
  obtain ⟨ri, v, chi, hsi, ha⟩ := stepP_eq_some_iff.mp hi
  obtain ⟨rj, w, chj, hsj, hb⟩ := stepP_eq_some_iff.mp hj
  refine ⟨_, stepP_eq_some_iff.mpr ⟨rj, w, chj, hsj.of_step hi hij.symm, rfl⟩,
    stepP_eq_some_iff.mpr ⟨ri, v, chi, hsi.of_step hj hij, ?_⟩⟩
  subst ha hb
  show Sys.mk _ _ _ = Sys.mk _ _ _
  rw [upd_comm _ _ _ _ _ hij, upd_comm _ _ _ _ _ hij, hsi.comm hsj hij]

def Finished (t : Sys σ Msg) : Prop := ∀ i, t.prog i = []

theorem finished_no_step {cap : Option Nat} {t : Sys σ Msg} (h : Finished t) (i : Nat) : stepP cap t i = none := by
  simp only [stepP, h i]

theorem runSched_cons {cap : Option Nat} {s t : Sys σ Msg} {i : Nat} {is : List Nat} :
    runSched cap s (i :: is) = some t ↔ ∃ s', stepP cap s i = some s' ∧ runSched cap s' is = some t := by
  cases h : stepP cap s i <;> simp [runSched, h]

/-- a step off an execution that ends in a state where nobody can move (finished or not) leaves an execution to that
    state that is one step shorter -/
private theorem descent_step {cap : Option Nat} {t : Sys σ Msg} (ht : ∀ i, stepP cap t i = none) {sched : List Nat}
    {s s' : Sys σ Msg} {i : Nat}
    (hr : runSched cap s sched = some t) (hs : stepP cap s i = some s') :
    ∃ sched', sched'.length + 1 = sched.length ∧ runSched cap s' sched' = some t := by
  induction sched generalizing s s' with
  | nil =>
    cases hr
    rw [ht i] at hs
    cases hs
  | cons j rest ih =>
    obtain ⟨s1, hsj, hr1⟩ := runSched_cons.mp hr
    by_cases hij : i = j
    · subst hij
      cases hs.symm.trans hsj
      exact ⟨rest, rfl, hr1⟩
    · obtain ⟨c, hc1, hc2⟩ := diamond cap s s' s1 i j hij hs hsj
      obtain ⟨sched', hl, hr'⟩ := ih hr1 hc2
      exact ⟨j :: sched', congrArg (· + 1) hl, runSched_cons.mpr ⟨c, hc1, hr'⟩⟩

/-- if one execution from `s` completes in `t`, every execution from `s` can be continued to `t`,
    and the total number of steps is always the same -/
theorem random_descent (t : Sys σ Msg) (ht : Finished t) (s : Sys σ Msg) (sched : List Nat) (hr : runSched cap s sched = some t)
    (sched' : List Nat) (u : Sys σ Msg) (hu : runSched cap s sched' = some u) :
    ∃ sched'', runSched cap u sched'' = some t ∧ sched'.length + sched''.length = sched.length := by
  induction sched' generalizing s sched with
  | nil =>
    cases hu
    exact ⟨sched, hr, Nat.zero_add _⟩
  | cons i rest ih =>
    obtain ⟨s', hsi, hu'⟩ := runSched_cons.mp hu
    obtain ⟨sc, hl, hrc⟩ := descent_step (finished_no_step ht) hr hsi
    obtain ⟨sched'', h1, h2⟩ := ih s' sc hrc hu'
    exact ⟨sched'', h1, by rw [List.length_cons, Nat.add_right_comm, h2, hl]⟩

/-- **termination**: no execution is longer than the complete one -/
theorem terminates (t : Sys σ Msg) (ht : Finished t) (s : Sys σ Msg) (sched : List Nat) (hr : runSched cap s sched = some t)
    (sched' : List Nat) (u : Sys σ Msg) (hu : runSched cap s sched' = some u) : sched'.length ≤ sched.length := by
  obtain ⟨_, _, h⟩ := random_descent cap t ht s sched hr sched' u hu
  exact h ▸ Nat.le_add_right _ _

/-- **no deadlock**: every reachable state is either the finished one or has an enabled process -/
theorem no_deadlock (t : Sys σ Msg) (ht : Finished t) (s : Sys σ Msg) (sched : List Nat) (hr : runSched cap s sched = some t)
    (sched' : List Nat) (u : Sys σ Msg) (hu : runSched cap s sched' = some u) :
    u = t ∨ ∃ i u', stepP cap u i = some u' := by
  obtain ⟨sched'', h1, _⟩ := random_descent cap t ht s sched hr sched' u hu
  cases sched'' with
  | nil => exact .inl (Option.some.inj h1)
  | cons i rest =>
    obtain ⟨u', hs, _⟩ := runSched_cons.mp h1
    exact .inr ⟨i, u', hs⟩

/-- **schedule independence**: every maximal execution — under every interleaving — ends in `t` -/
theorem schedule_independent (t : Sys σ Msg) (ht : Finished t) (s : Sys σ Msg) (sched : List Nat) (hr : runSched cap s sched = some t)
    (sched' : List Nat) (u : Sys σ Msg) (hu : runSched cap s sched' = some u) (hmax : ∀ i, stepP cap u i = none) : u = t := by
  rcases no_deadlock cap t ht s sched hr sched' u hu with h | ⟨i, u', h⟩
  · exact h
  · rw [hmax i] at h; cases h

theorem proj_nil (p : Nat) : proj ([] : List (GEv σ Msg)) p = [] := rfl

/-- communications are between distinct processes -/
def WellFormed : List (GEv σ Msg) → Prop
  | [] => True
  | GEv.loc _ _ :: rest => WellFormed rest
  | GEv.comm i j _ _ :: rest => i ≠ j ∧ WellFormed rest

/-- the final state of a complete run of a choreography -/
def doneSys (st : Nat → σ) : Sys σ Msg := { prog := fun _ => [], store := st, chan := fun _ _ => [] }

theorem runSched_loc {cap : Option Nat} {s : Sys σ Msg} {i : Nat} {f rest} (hi : s.prog i = Act.loc f :: rest) (l : List Nat) :
    runSched cap s (i :: l) = runSched cap ⟨upd s.prog i rest, upd s.store i (f (s.store i)), s.chan⟩ l := by
  simp only [runSched, stepP, hi]

/-- a send into an empty channel whose receiver is waiting for it, then the receive: the message is
    handed over and the channel is empty again. Both steps are enabled at every capacity. -/
theorem runSched_send_recv {cap : Option Nat} {s : Sys σ Msg} {i j : Nat} {mk use ri rj} (hij : i ≠ j)
    (hi : s.prog i = Act.send j mk :: ri) (hj : s.prog j = Act.recv i use :: rj) (hc : s.chan i j = []) (l : List Nat) :
    runSched cap s (i :: j :: l) =
      runSched cap ⟨upd (upd s.prog i ri) j rj, upd s.store j (use (s.store j) (mk (s.store i))), s.chan⟩ l := by
  have hok : sendOk cap s i j = true := by simp [sendOk, hc, hj, headIsRecvFrom]
  -- the receive writes the old value `[] = s.chan i j` back into the cell
  have hch : upd2 (upd2 s.chan i j [mk (s.store i)]) i j [] = s.chan :=
    (congrArg (upd2 _ i j) hc.symm).trans (upd2_eq_of_eq_off fun a b hab => upd2_other _ _ _ _ _ _ hab)
  simp only [runSched, stepP, hi, hok, if_true, upd_other _ _ _ _ hij.symm, hj, upd2_same, hc, List.nil_append, hch]

theorem canonical_complete (G : List (GEv σ Msg)) (hw : WellFormed G) (st : Nat → σ) :
    runSched cap (initSys G st) (canonicalSched G) = some (doneSys (seqRun G st)) := by
  induction G generalizing st with
  | nil => rfl
  | cons e rest ih =>
    cases e with
    | loc i f =>
      have hp : upd (proj (GEv.loc i f :: rest)) i (proj rest i) = proj rest := upd_eq_of_eq_off fun p hp => if_neg hp
      rw [canonicalSched, runSched_loc (s := initSys (.loc i f :: rest) st) (if_pos rfl)]
      simp only [initSys, hp]
      exact ih hw _
    | comm i j mk uf =>
      obtain ⟨hij, hw'⟩ := hw
      have hp : upd (upd (proj (GEv.comm i j mk uf :: rest)) i (proj rest i)) j (proj rest j) = proj rest := by
        refine upd_eq_of_eq_off fun p hpj => ?_
        by_cases hpi : p = i
        · rw [hpi, upd_same]
        · rw [upd_other _ _ _ _ hpi]
          exact (if_neg hpi).trans (if_neg hpj)
      rw [canonicalSched, runSched_send_recv hij (s := initSys (.comm i j mk uf :: rest) st) (if_pos rfl)
        ((if_neg hij.symm).trans (if_pos rfl)) rfl]
      simp only [initSys, hp]
      exact ih hw' _

theorem choreography_all_interleavings {cap : Option Nat} {G : List (GEv σ Msg)} (hw : WellFormed G) {st : Nat → σ}
    {sched' : List Nat} {u : Sys σ Msg} (hu : runSched cap (initSys G st) sched' = some u) :
    sched'.length ≤ (canonicalSched G).length ∧
    (u = doneSys (seqRun G st) ∨ ∃ i u', stepP cap u i = some u') ∧
    ((∀ i, stepP cap u i = none) → u = doneSys (seqRun G st)) := by
  have hfin : Finished (doneSys (seqRun G st) : Sys σ Msg) := fun _ => rfl
  have hc := canonical_complete cap G hw st
  exact ⟨terminates cap _ hfin _ _ hc _ _ hu, no_deadlock cap _ hfin _ _ hc _ _ hu,
    schedule_independent cap _ hfin _ _ hc _ _ hu⟩

theorem WellFormed.append {a b : List (GEv σ Msg)} (ha : WellFormed a) (hb : WellFormed b) : WellFormed (a ++ b) := by
  induction a with
  | nil => exact hb
  | cons e es ih =>
    cases e with
    | loc i f => exact ih ha
    | comm i j mk uf => exact ⟨ha.1, ih ha.2⟩

theorem WellFormed.flatten {ls : List (List (GEv σ Msg))} (h : ∀ l ∈ ls, WellFormed l) : WellFormed ls.flatten := by
  induction ls with
  | nil => trivial
  | cons l rest ih =>
    exact (h l List.mem_cons_self).append (ih fun l' hl' => h l' (List.mem_cons_of_mem _ hl'))

theorem wellFormed_locs (l : List Nat) (f : Nat → σ → σ) : WellFormed (l.map fun i => (GEv.loc i (f i) : GEv σ Msg)) := by
  induction l with
  | nil => trivial
  | cons i is ih => exact ih

theorem seqRun_append (a b : List (GEv σ Msg)) (st : Nat → σ) : seqRun (a ++ b) st = seqRun b (seqRun a st) := by
  induction a generalizing st with
  | nil => rfl
  | cons e es ih => cases e <;> exact ih _

theorem seqRun_locs (l : List Nat) (hl : l.Nodup) (f : Nat → σ → σ) (st : Nat → σ) (i : Nat) :
    seqRun (l.map fun j => (GEv.loc j (f j) : GEv σ Msg)) st i = if i ∈ l then f i (st i) else st i := by
  induction l generalizing st with
  | nil => rfl
  | cons j js ih =>
    obtain ⟨hj, hjs⟩ := List.nodup_cons.mp hl
    rw [List.map_cons, seqRun, ih hjs]
    by_cases h : i = j
    · subst h
      rw [if_neg hj, upd_same, if_pos List.mem_cons_self]
    · simp only [upd_other _ _ _ _ h, List.mem_cons, h, false_or]

end Async
end HmcVerif
