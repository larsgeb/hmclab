import HmcVerif.Model.Metropolis
import HmcVerif.Real.Ext
import Mathlib.Tactic.NormNum
/-
  C02 — accept/reject realises the Metropolis rule exactly.
-/
-- `hmc_carried_misfit_is_own` and `hmc_accepted_count` take the `[Add V]` of their section without using it
set_option linter.unusedSectionVars false
namespace HmcVerif
namespace C02

section rule
variable {α : Type} [Sub α] [LT α] [DecidableLT α]

theorem accept_iff_rule (exp : α → α) (u eCur eProp : α) :
    accept exp u eCur eProp = true ↔ u < exp (eCur - eProp) :=
  decide_eq_true_iff

variable {V : Type}

theorem accept_updates_state (exp : α → α) (s : Chain V α) (prop : V) (propX u eCur eProp : α)
    (h : u < exp (eCur - eProp)) :
    metropolis exp s prop propX u eCur eProp = { model := prop, x := propX, accepted := s.accepted + 1 } :=
  if_pos ((accept_iff_rule exp u eCur eProp).mpr h)

theorem reject_keeps_state (exp : α → α) (s : Chain V α) (prop : V) (propX u eCur eProp : α)
    (h : ¬ u < exp (eCur - eProp)) :
    metropolis exp s prop propX u eCur eProp = s :=
  if_neg ((accept_iff_rule exp u eCur eProp).not.mpr h)

theorem metropolis_cases {P : Chain V α → Prop} (exp : α → α) (s : Chain V α) (prop : V)
    (propX u eCur eProp : α) (hacc : P { model := prop, x := propX, accepted := s.accepted + 1 })
    (hrej : P s) : P (metropolis exp s prop propX u eCur eProp) := by
  unfold metropolis
  split
  · exact hacc
  · exact hrej

theorem metropolis_accepted (exp : α → α) (s : Chain V α) (prop : V) (propX u eCur eProp : α) :
    (metropolis exp s prop propX u eCur eProp).accepted
      = s.accepted + if accept exp u eCur eProp then 1 else 0 := by
  unfold metropolis
  split <;> rfl
end rule

theorem nan_or_posinf_never_accepted (u : ℝ) (hu : 0 ≤ u) (eCur eProp : Ext)
    (h : eProp = Ext.nan ∨ eProp = Ext.pinf) :
    accept Ext.exp (Ext.fin u) eCur eProp = false := by
  -- the acceptance ratio is NaN or 0, and no `u ≥ 0` lies below either
  have hratio : Ext.exp (eCur - eProp) = Ext.nan ∨ Ext.exp (eCur - eProp) = Ext.fin 0 := by
    rcases h with rfl | rfl
    · cases eCur <;> exact Or.inl rfl
    · cases eCur
      exacts [Or.inr rfl, Or.inl rfl, Or.inr rfl, Or.inl rfl]
  refine decide_eq_false ?_
  rcases hratio with e | e <;> rw [e]
  · exact id  -- `_ < nan` is `False` by definition of `Ext.lt`
  · exact not_lt.mpr hu

theorem bad_energy_keeps_state {V : Type} (s : Chain V Ext) (prop : V) (propX : Ext) (u : ℝ) (hu : 0 ≤ u)
    (eCur eProp : Ext) (h : eProp = Ext.nan ∨ eProp = Ext.pinf) :
    metropolis Ext.exp s prop propX (Ext.fin u) eCur eProp = s :=
  reject_keeps_state Ext.exp s prop propX _ eCur eProp
    (of_decide_eq_false (nan_or_posinf_never_accepted u hu eCur eProp h))

/-- the total energy of an HMC proposal whose misfit is NaN or +inf. `hk` is not needed
    (`pinf + ninf = nan`); every kinetic energy satisfies it, being a non-negative quadratic form. -/
theorem hmc_bad_misfit_bad_energy (px pk : Ext) (h : px = Ext.nan ∨ px = Ext.pinf) (hk : pk ≠ Ext.ninf) :
    px + pk = Ext.nan ∨ px + pk = Ext.pinf := by
  rcases h with rfl | rfl
  · cases pk <;> exact Or.inl rfl
  · cases pk
    exacts [Or.inr rfl, Or.inr rfl, Or.inl rfl, Or.inl rfl]

section hist
variable {V α : Type} [Sub α] [LT α] [DecidableLT α] [Add V]

/-- the RWMH increment is a function of the draw and the step size only, not of the current state -/
theorem rwmh_proposal_independent {W : Type} [AddCommGroup W] (scale : W → W) (cur cur' z : W) :
    rwmhPropose scale cur z - cur = rwmhPropose scale cur' z - cur' := by
  unfold rwmhPropose
  rw [add_sub_cancel_left, add_sub_cancel_left]

theorem rwmh_carried_misfit_is_own (exp : α → α) (misfit : V → α) (scale : V → V) (s : Chain V α)
    (h : s.x = misfit s.model) (draws : List (V × α)) :
    (rwmhRun exp misfit scale s draws).x = misfit (rwmhRun exp misfit scale s draws).model :=
  -- accepted: the proposal is stored with the misfit evaluated at it (`rwmhStep`); rejected: `hs`
  List.foldlRecOn (motive := fun c => c.x = misfit c.model) draws _ h fun s hs d _ =>
    metropolis_cases (P := fun c => c.x = misfit c.model) exp s _ _ d.2 _ _ rfl hs

theorem rwmh_accepted_count (exp : α → α) (misfit : V → α) (scale : V → V) (s : Chain V α)
    (draws : List (V × α)) :
    (rwmhRun exp misfit scale s draws).accepted
      = s.accepted + rwmhAcceptCount exp misfit scale s draws := by
  induction draws generalizing s with
  | nil => rfl
  | cons d ds ih =>
    refine (ih (rwmhStep exp misfit scale s d.1 d.2)).trans ?_
    rw [rwmhStep, metropolis_accepted, Nat.add_assoc]
    rfl

variable [Add α]

/-- `h` serves `draws = []` only: `hmcStep` re-evaluates the current misfit, so the step case does not
    use the induction hypothesis -/
theorem hmc_carried_misfit_is_own (exp : α → α) (misfit : V → α) (kin : V → α) (propose : V × V → V × V)
    (s : Chain V α) (h : s.x = misfit s.model) (draws : List (V × α)) :
    (hmcRun exp misfit kin propose s draws).x = misfit (hmcRun exp misfit kin propose s draws).model :=
  List.foldlRecOn (motive := fun c : Chain V α => c.x = misfit c.model) draws _ h fun s _ d _ =>
    metropolis_cases (P := fun c => c.x = misfit c.model) exp { s with x := misfit s.model } _ _ d.2 _ _ rfl rfl

theorem hmc_accepted_count (exp : α → α) (misfit : V → α) (kin : V → α) (propose : V × V → V × V)
    (s : Chain V α) (draws : List (V × α)) :
    (hmcRun exp misfit kin propose s draws).accepted
      = s.accepted + hmcAcceptCount exp misfit kin propose s draws := by
  induction draws generalizing s with
  | nil => rfl
  | cons d ds ih =>
    refine (ih (hmcTransition exp misfit kin propose s d.1 d.2)).trans ?_
    rw [hmcTransition, hmcStep, metropolis_accepted, Nat.add_assoc]
    rfl
end hist

/-! ### non-vacuity -/
example : accept Real.exp (0.5 : ℝ) 0 0 = true := by
  rw [accept_iff_rule, sub_zero, Real.exp_zero]; norm_num
example : accept Ext.exp (Ext.fin 0.5) (Ext.fin 1) Ext.nan = false :=
  nan_or_posinf_never_accepted 0.5 (by norm_num) _ _ (Or.inl rfl)

end C02
end HmcVerif
