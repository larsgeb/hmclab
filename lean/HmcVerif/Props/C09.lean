import HmcVerif.Model.Loop
import HmcVerif.Model.Metropolis
import HmcVerif.Props.C07
/-
  C09 — seeded runs are bit-reproducible and independent of observers.
  In the model the observers are explicit parameters (`Env`): the write-buffer clock and its
  thresholds, the progress-bar clock, the diagnostic / progress-bar / animation flags and the
  storage back end. The theorems say the stored columns do not depend on them.
-/
namespace HmcVerif
namespace C09
variable {C τ : Type}

/-- everything the run can observe besides its configuration and its random draws -/
structure Env (τ : Type) where
  bufferClock : Nat → τ           -- hmclab.Samples._time
  fast : τ → τ → Bool
  slow : τ → τ → Bool
  progressClock : Nat → τ         -- hmclab.Samplers._time (progress bar refresh)
  diagnostic : Bool
  progressbar : Bool
  animate : Bool
  hdf5 : Bool                     -- storage back end

/-- the run under an environment: the loop model reads the environment exactly where the code
    does — in the sample store's adaptive buffer; timers, progress bar and plots wrap calls but
    feed nothing back -/
def runEnv (e : Env τ) (col : Nat → C) (ncalls : Nat → Nat) (t P : Nat) : Outcome C :=
  runFree e.bufferClock e.fast e.slow col ncalls t P

/-- two runs with the same seed (same `col`), target and tuning produce the same file whatever
    the environment — and whatever the number of calls the instrumentation adds -/
theorem columns_env_independent (e₁ e₂ : Env τ) (col : Nat → C) (n₁ n₂ : Nat → Nat) (t P : Nat) :
    (runEnv e₁ col n₁ t P).columns = (runEnv e₂ col n₂ t P).columns ∧
    (runEnv e₁ col n₁ t P).writeIndex = (runEnv e₂ col n₂ t P).writeIndex := by
  unfold runEnv
  have h1 := C07.file_is_thinned_chain e₁.bufferClock e₁.fast e₁.slow col n₁ t P
  have h2 := C07.file_is_thinned_chain e₂.bufferClock e₂.fast e₂.slow col n₂ t P
  exact ⟨by rw [h1.1, h2.1], by rw [h1.2, h2.2]⟩

/-- a shorter run is a prefix of a longer one with the same seed -/
theorem shorter_is_prefix (e e' : Env τ) (col : Nat → C) (n n' : Nat → Nat) (t P' P : Nat) (h : P' ≤ P) :
    (runEnv e' col n' t P').columns
      = (runEnv e col n t P).columns.take (runEnv e' col n' t P').columns.length := by
  obtain ⟨d, rfl⟩ := Nat.exists_eq_add_of_le h
  rw [runEnv, runEnv, (C07.file_is_thinned_chain _ _ _ col n' t P').1,
    (C07.file_is_thinned_chain _ _ _ col n t (P' + d)).1, C07.storedIdx_add, List.map_append, List.take_left]

/-- congruence of `rwmhRun` in its draws. That the state after proposal `i` reads nothing but the
    first `i + 1` draws is how the model is written (`rwmhRun` is handed nothing else), not a
    consequence of this statement -/
theorem column_depends_on_prefix {V α : Type} [Sub α] [LT α] [DecidableLT α] [Add V]
    (exp : α → α) (misfit : V → α) (scale : V → V) (s0 : Chain V α) (d₁ d₂ : List (V × α)) (i : Nat)
    (h : d₁.take (i + 1) = d₂.take (i + 1)) :
    rwmhRun exp misfit scale s0 (d₁.take (i + 1)) = rwmhRun exp misfit scale s0 (d₂.take (i + 1)) :=
  congrArg _ h

/-! ### non-vacuity -/
example : C07.storedIdx 2 4 = (C07.storedIdx 2 9).take 2 := by decide

end C09
end HmcVerif
