import HmcVerif.Model.Tempering
import HmcVerif.Real.AsyncThm
/-
  C12 — parallel tempering exchanges conserve states, obey the swap rule, terminate.
  Models: Model/Async.lean (processes, FIFO channels, every interleaving), Model/Tempering.lean (the
  choreography of kernels, exchanges and appends). Real/AsyncThm.lean proves, for the projections of
  any well-formed choreography: termination, deadlock-freedom and schedule-independence.
-/
namespace HmcVerif
namespace C12
open Async Tempering

variable {V α : Type} [Sub α] [Add α] [LT α] [DecidableLT α] [DecidableEq V]

/-- the Metropolis swap rule of the property: `u < exp(Δ_master + Δ_slave)` with the two misfit improvements -/
def swapRule (exp : α → α) (misfit : Nat → V → α) (s m : Nat) (u : α) (st : Nat → ChainSt V α) : Prop :=
  u < exp (((st m).x - misfit m (st s).model) + ((st s).x - misfit s (st m).model))

instance (exp : α → α) (misfit : Nat → V → α) (s m : Nat) (u : α) (st : Nat → ChainSt V α) :
    Decidable (swapRule exp misfit s m u st) := by unfold swapRule; infer_instance

/-- the exchange block in closed form. Both chains hold the other's model in `tmpModel` and their own
    misfit of it in `exX`; the master swaps by the rule and returns the model it does not keep; the
    slave ends with the master's model, at its own misfit of it, if the master swapped or the two
    models were equal anyway, and otherwise keeps what it has. -/
theorem exchangeBlock_run (exp : α → α) (misfit : Nat → V → α) {s m : Nat} (hsm : s ≠ m) (u : α) (st : Nat → ChainSt V α) :
    seqRun (exchangeBlock exp misfit s m u) st =
      let S : ChainSt V α := { st s with tmpModel := (st m).model, exX := misfit s (st m).model,
                                         myImp := (st s).x - misfit s (st m).model }
      let M : ChainSt V α := { st m with tmpModel := (st s).model, exX := misfit m (st s).model,
                                         myImp := (st m).x - misfit m (st s).model, otherImp := S.myImp }
      upd (upd st m (if swapRule exp misfit s m u st then { M with outgoing := M.model, model := M.tmpModel, x := M.exX }
                     else { M with outgoing := M.tmpModel }))
        s (if swapRule exp misfit s m u st ∨ (st s).model = (st m).model then { S with model := (st m).model, x := S.exX }
           else S) := by
  have hms : m ≠ s := hsm.symm
  simp only [exchangeBlock, seqRun, upd_same, upd_other _ _ _ _ hsm, upd_other _ _ _ _ hms, msgModel, msgDelta,
    upd_comm _ _ _ _ _ hms, upd_upd]
  by_cases hsw : swapRule exp misfit s m u st
  · -- the master returns its own model, which the slave holds as `tmpModel`
    have hsw' : u < exp _ := hsw
    simp only [if_pos hsw', eq_true hsw, true_or, if_true]
  · -- the master returns the slave's model
    have hsw' : ¬ u < exp _ := hsw
    simp only [if_neg hsw', eq_false hsw, false_or, if_false]
    by_cases he : (st s).model = (st m).model
    · simp only [he, if_true]
    · simp only [he, if_false]

/-- at a scheduled exchange the two chains either both keep or exactly swap their states, the swap
    happening exactly when the rule holds -/
theorem pair_keeps_or_swaps (exp : α → α) (misfit : Nat → V → α) (s m : Nat) (hsm : s ≠ m) (u : α) (st : Nat → ChainSt V α) :
    let st' := seqRun (exchangeBlock exp misfit s m u) st
    (swapRule exp misfit s m u st → (st' s).model = (st m).model ∧ (st' m).model = (st s).model) ∧
    (¬ swapRule exp misfit s m u st → (st' s).model = (st s).model ∧ (st' m).model = (st m).model) := by
  simp only [exchangeBlock_run exp misfit hsm, upd_same, upd_other _ _ _ _ hsm.symm]
  refine ⟨fun h => ?_, fun h => ?_⟩
  · rw [if_pos (.inl h), if_pos h]
    exact ⟨rfl, rfl⟩
  · rw [if_neg h]
    by_cases he : (st s).model = (st m).model
    · rw [if_pos (.inr he)]
      exact ⟨he.symm, rfl⟩
    · rw [if_neg (not_or.mpr ⟨h, he⟩)]
      exact ⟨rfl, rfl⟩

/-- every stored misfit — and the energy used by the next transition — is the chain's own target
    misfit of the state it now holds -/
theorem stored_misfit_is_own (exp : α → α) (misfit : Nat → V → α) (s m : Nat) (hsm : s ≠ m) (u : α) (st : Nat → ChainSt V α)
    (hs : (st s).x = misfit s (st s).model) (hm : (st m).x = misfit m (st m).model) :
    let st' := seqRun (exchangeBlock exp misfit s m u) st
    (st' s).x = misfit s (st' s).model ∧ (st' m).x = misfit m (st' m).model := by
  simp only [exchangeBlock_run exp misfit hsm, upd_same, upd_other _ _ _ _ hsm.symm]
  constructor
  · split
    · rfl
    · exact hs
  · split
    · rfl
    · exact hm

/-- the exchange touches nothing but the two chains' states: no column is added or lost, and every
    other chain is unaffected -/
theorem exchange_frame (exp : α → α) (misfit : Nat → V → α) (s m : Nat) (hsm : s ≠ m) (u : α) (st : Nat → ChainSt V α) :
    let st' := seqRun (exchangeBlock exp misfit s m u) st
    (st' s).cols = (st s).cols ∧ (st' m).cols = (st m).cols ∧ ∀ p, p ≠ s → p ≠ m → st' p = st p := by
  simp only [exchangeBlock_run exp misfit hsm, upd_same, upd_other _ _ _ _ hsm.symm]
  refine ⟨?_, ?_, fun p hps hpm => ?_⟩
  · split <;> rfl
  · split <;> rfl
  · rw [upd_other _ _ _ _ hps, upd_other _ _ _ _ hpm]

/-- the schedule has a row for every exchange proposal, whether the interval divides the proposal
    count or not: `⌈P / I⌉ = (P - 1) / I + 1` -/
theorem row_available (P I k : Nat) (hI : 0 < I) (hk : k < P) : k / I < rowsNeeded P I := by
  rw [rowsNeeded, Nat.sub_add_comm (Nat.one_le_of_lt hk), Nat.add_div_right _ hI]
  exact Nat.lt_succ_of_le (Nat.div_le_div_right (Nat.le_sub_one_of_lt hk))

/-- every scheduled (slave, master) pair consists of two distinct chains: what `WellFormed` asks of
    the exchange blocks -/
def SchedOK (sched : Nat → List Nat) : Prop := ∀ r, ∀ sm ∈ pairs (sched r), sm.1 ≠ sm.2

/-- `I ≠ 0 →`: with exchange off the schedule is never read (C20 uses this at `I = 0`) -/
theorem script_wellFormed (exp : α → α) (misfit : Nat → V → α) (kern : Nat → Nat → V × α → V × α) (udraw : Nat → Nat → α)
    (n P I : Nat) (sched : Nat → List Nat) (hs : I ≠ 0 → SchedOK sched) :
    WellFormed (script exp misfit kern udraw n P I sched) := by
  refine WellFormed.flatten fun l hl => ?_
  obtain ⟨k, -, rfl⟩ := List.mem_map.mp hl
  refine ((wellFormed_locs _ _).append ?_).append (wellFormed_locs _ _)
  split
  · next hI =>
    refine WellFormed.flatten fun l hl => ?_
    obtain ⟨sm, hsm, rfl⟩ := List.mem_map.mp hl
    have := hs hI.1 _ sm hsm
    exact ⟨this, this.symm, this, this.symm, trivial⟩
  · trivial

/-- **for all chain counts, proposal counts, exchange intervals, schedules, kernels and targets, and
    for every interleaving of the chains' send/receive/compute steps**: the run terminates (no
    execution is longer than the canonical one), never deadlocks (every reachable state is finished
    or has an enabled chain), and every maximal execution ends with empty pipes and exactly the
    stores of the sequential reference run — the result does not depend on how the operating system
    schedules the processes. -/
theorem tempering_all_interleavings (cap : Option Nat) (exp : α → α) (misfit : Nat → V → α) (kern : Nat → Nat → V × α → V × α) (udraw : Nat → Nat → α)
    (n P I : Nat) (sched : Nat → List Nat) (hs : SchedOK sched) (st : Nat → ChainSt V α)
    (osSchedule : List Nat) (u : Sys (ChainSt V α) (TMsg V α))
    (hu : runSched cap (initSys (script exp misfit kern udraw n P I sched) st) osSchedule = some u) :
    osSchedule.length ≤ (canonicalSched (script exp misfit kern udraw n P I sched)).length ∧
    (u = doneSys (seqRun (script exp misfit kern udraw n P I sched) st) ∨ ∃ i u', stepP cap u i = some u') ∧
    ((∀ i, stepP cap u i = none) → u = doneSys (seqRun (script exp misfit kern udraw n P I sched) st)) :=
  choreography_all_interleavings (script_wellFormed exp misfit kern udraw n P I sched fun _ => hs) hu

def ncols (st : Nat → ChainSt V α) (i : Nat) : Nat := (st i).cols.length

theorem script_succ (exp : α → α) (misfit : Nat → V → α) (kern : Nat → Nat → V × α → V × α) (udraw : Nat → Nat → α)
    (n P I : Nat) (sched : Nat → List Nat) :
    script exp misfit kern udraw n (P + 1) I sched =
      script exp misfit kern udraw n P I sched ++ proposalScript exp misfit kern udraw n I sched P := by
  simp only [script, List.range_succ, List.map_append, List.flatten_append, List.map_cons, List.map_nil,
    List.flatten_cons, List.flatten_nil, List.append_nil]

private theorem exchanges_cols (exp : α → α) (misfit : Nat → V → α) (u : Nat × Nat → α)
    (ps : List (Nat × Nat)) (hp : ∀ sm ∈ ps, sm.1 ≠ sm.2) (st : Nat → ChainSt V α) (i : Nat) :
    ncols (seqRun ((ps.map (fun sm => exchangeBlock exp misfit sm.1 sm.2 (u sm))).flatten) st) i = ncols st i := by
  induction ps generalizing st with
  | nil => rfl
  | cons sm rest ih =>
    rw [List.map_cons, List.flatten_cons, seqRun_append, ih fun x hx => hp x (List.mem_cons_of_mem _ hx)]
    obtain ⟨hs, hm, ho⟩ := exchange_frame exp misfit sm.1 sm.2 (hp sm List.mem_cons_self) (u sm) st
    unfold ncols
    by_cases h1 : i = sm.1
    · rw [h1, hs]
    · by_cases h2 : i = sm.2
      · rw [h2, hm]
      · rw [ho i h1 h2]

omit [Sub α] [Add α] [LT α] [DecidableLT α] [DecidableEq V] in
private theorem locs_cols (f : Nat → ChainSt V α → ChainSt V α) (d : Nat) (hf : ∀ j c, (f j c).cols.length = c.cols.length + d)
    (l : List Nat) (hl : l.Nodup) (st : Nat → ChainSt V α) (i : Nat) (hi : i ∈ l) :
    ncols (seqRun (l.map fun j => (GEv.loc j (f j) : GEv (ChainSt V α) (TMsg V α))) st) i = ncols st i + d := by
  rw [ncols, seqRun_locs _ hl, if_pos hi]
  exact hf i _

/-- the kernels and the exchanges add no column, the append adds one -/
private theorem proposal_cols (exp : α → α) (misfit : Nat → V → α) (kern : Nat → Nat → V × α → V × α) (udraw : Nat → Nat → α)
    (n I : Nat) (sched : Nat → List Nat) (hs : SchedOK sched) (k : Nat) (st : Nat → ChainSt V α) (i : Nat) (hi : i < n) :
    ncols (seqRun (proposalScript exp misfit kern udraw n I sched k) st) i = ncols st i + 1 := by
  have hmem : i ∈ List.range n := List.mem_range.mpr hi
  have hex : ∀ st', ncols (seqRun (if I ≠ 0 ∧ k % I = 0 then
      ((pairs (sched (k / I))).map fun sm => exchangeBlock exp misfit sm.1 sm.2 (udraw sm.2 k)).flatten else []) st') i
      = ncols st' i := by
    intro st'
    split
    · exact exchanges_cols exp misfit (fun sm => udraw sm.2 k) _ (hs _) st' i
    · rfl
  rw [proposalScript, seqRun_append, seqRun_append, locs_cols _ 1 (fun _ _ => List.length_append) _ List.nodup_range _ i hmem,
    hex, locs_cols _ 0 ?_ _ List.nodup_range _ i hmem]
  exact fun _ _ => rfl

/-- **exactly `proposals` columns per chain**, for every number of chains, every proposal count and
    every exchange interval — dividing the proposal count or not, exchange on or off (`I = 0`) -/
theorem columns_per_chain (exp : α → α) (misfit : Nat → V → α) (kern : Nat → Nat → V × α → V × α) (udraw : Nat → Nat → α)
    (n P I : Nat) (sched : Nat → List Nat) (hs : SchedOK sched) (st : Nat → ChainSt V α) (i : Nat) (hi : i < n) :
    ncols (seqRun (script exp misfit kern udraw n P I sched) st) i = ncols st i + P := by
  induction P with
  | zero => rfl
  | succ P ih => rw [script_succ, seqRun_append, proposal_cols exp misfit kern udraw n I sched hs P _ i hi, ih, Nat.add_assoc]

/-! ### why the order of send and receive inside an exchange matters

  `tempering_all_interleavings` holds for **every** pipe capacity because in hmclab's protocol one
  side of a pair always receives while the other sends. A protocol in which both chains of a pair
  first send their model and then receive the other's is fine while the models fit into the pipe
  buffer, and deadlocks as soon as they do not (capacity 0 = a send completes only while the
  receiver receives). -/

/-- two processes that both send first and receive second -/
def symmetricSend : Sys Unit Unit :=
  { prog := fun p => if p = 0 then [Act.send 1 (fun _ => ()), Act.recv 1 (fun s _ => s)]
                     else if p = 1 then [Act.send 0 (fun _ => ()), Act.recv 0 (fun s _ => s)] else [],
    store := fun _ => (), chan := fun _ _ => [] }

theorem symmetric_send_completes_when_buffered :
    ∃ t, runSched none symmetricSend [0, 1, 0, 1] = some t ∧ ∀ i, t.prog i = [] := by
  refine ⟨_, rfl, fun i => ?_⟩
  rcases i with _ | _ | i
  · simp [upd]
  · simp [upd]
  · simp [upd, symmetricSend]

/-- capacity 0: each send waits for a receive that comes second in the other's program -/
theorem symmetric_send_deadlocks :
    (∀ i, stepP (some 0) symmetricSend i = none) ∧ symmetricSend.prog 0 ≠ [] ∧ symmetricSend.prog 1 ≠ [] := by
  refine ⟨fun i => ?_, by simp [symmetricSend], by simp [symmetricSend]⟩
  rcases i with _ | _ | i
  · rfl
  · rfl
  · simp [stepP, symmetricSend]

/-! ### a chain that leaves its loop early (its own `max_time`, an exception of its target)

  The theorems above are about chains that all run the whole schedule. The choreography has no
  message for "I have stopped": a chain that ends before a scheduled exchange leaves its partner
  in a receive that nobody will ever answer, whatever the capacity of the pipes (a negative theorem;
  the witness - two chains with different time limits - is replayed on hmclab by the harness and
  recorded in known_findings.json). -/

/-- chain 0 has stopped before the exchange; chain 1, the master of the pair, waits for its state -/
def partnerStopped : Sys Unit Unit :=
  { prog := fun p => if p = 1 then [Act.recv 0 (fun s _ => s), Act.send 0 (fun _ => ())] else [],
    store := fun _ => (), chan := fun _ _ => [] }

theorem stopped_partner_blocks_forever (cap : Option Nat) :
    (∀ i, stepP cap partnerStopped i = none) ∧ partnerStopped.prog 1 ≠ [] := by
  refine ⟨fun i => ?_, by simp [partnerStopped]⟩
  by_cases h1 : i = 1
  · subst h1; simp [stepP, partnerStopped]
  · simp [stepP, partnerStopped, h1]

/-! ### non-vacuity: two chains, a schedule that pairs them -/
example : SchedOK (fun _ => [0, 1]) := by
  intro r sm h
  simp [pairs] at h
  subst h
  decide
example : rowsNeeded 10 3 = 4 := by decide

end C12
end HmcVerif
