import HmcVerif.Model.Consent
/-
  C11 — existing sample files are never modified without overwrite consent
  (model: Model/Consent.lean). The theorem is structural — the model *says* which operations touch
  the file; its force on the code comes from the correspondence, which hashes real files before
  and after every real operation. The same for operations aimed at several paths (`Disk`), for a
  writer and its copies, and for two writers alive at the same time (the situations of the checks
  C10.two_writers and C07 nested samplers).
-/
namespace HmcVerif
namespace C11
open Consent

/-- `step` leaves the world as it is, or opens the path for writing — and that only where nothing
    exists or the operation carries consent -/
theorem step_cases {P : World × Result → Prop} (npy : Bool) (w : World) (o : Op) (hkeep : ∀ r, P (w, r))
    (hwrite : (exists_ w npy = true → o.consents = true) → ∀ b r, P (rewrite w npy b, r)) : P (step npy w o) := by
  have hopen : ∀ (ow b : Bool) (r : Result), (ow = true → o.consents = true) →
      P (if exists_ w npy && !ow then (w, .fileExists) else (rewrite w npy b, r)) := by
    intro ow b r how
    split
    · exact hkeep _
    · next h =>
      refine hwrite (fun hex => how ?_) b r
      cases ow
      · rw [hex] at h; exact absurd rfl h
      · rfl
  cases o with
  | sample st ow =>
    cases st
    case beforeOpen => exact hkeep _
    all_goals exact hopen ow _ _ id
  | openWrite ow => exact hopen ow _ _ id
  | parallelStart ow =>
    cases ow
    · exact hkeep _
    · exact hwrite (fun _ => rfl) _ _
  | copyObj | deepcopyObj | pickleObj | loadResults => exact hkeep _

/-- where a file exists, an operation without consent leaves the world exactly as it found it -/
theorem step_no_consent (npy : Bool) (w : World) (o : Op) (hc : o.consents = false)
    (hex : exists_ w npy = true) : (step npy w o).1 = w :=
  step_cases (P := fun r => r.1 = w) npy w o (fun _ => rfl) fun h => absurd (h hex) (by rw [hc]; exact Bool.false_ne_true)

theorem run_no_consent (npy : Bool) (w : World) (ops : List Op) (hc : ∀ o ∈ ops, o.consents = false)
    (hex : exists_ w npy = true) : run npy w ops = w :=
  List.foldlRecOn (motive := (· = w)) ops _ rfl fun v hv o ho => by
    rw [hv]
    exact step_no_consent npy w o (hc o ho) hex

/-- **every operation sequence** in which no operation carries `overwrite = True` leaves an existing
    samples file and its sidecar unchanged -/
theorem no_consent_no_change (npy : Bool) (w : World) (ops : List Op) (hc : ∀ o ∈ ops, o.consents = false)
    (hex : exists_ w npy = true) :
    (run npy w ops).file = w.file ∧ (run npy w ops).sidecar = w.sidecar := by
  rw [run_no_consent npy w ops hc hex]
  exact ⟨rfl, rfl⟩

/-- an attempt to write to an existing file with otherwise valid arguments and without consent
    raises FileExistsError -/
theorem valid_write_raises_exists (npy : Bool) (w : World) (hex : exists_ w npy = true) :
    (step npy w (.sample .valid false)).2 = .fileExists ∧ (step npy w (.openWrite false)).2 = .fileExists := by
  simp [step, hex]

/-- structural: `rewrite` is the only place where the model writes `handles`, and it writes 0 -/
theorem no_open_handle (npy : Bool) (w : World) (h : w.handles = 0) (ops : List Op) : (run npy w ops).handles = 0 :=
  List.foldlRecOn (motive := fun v : World => v.handles = 0) ops _ h fun v hv o _ =>
    step_cases (P := fun r => r.1.handles = 0) npy v o (fun _ => hv) fun _ _ _ => rfl

/-- the parallel controller without `overwrite_existing_files=True` never starts, whatever exists -/
theorem parallel_without_consent_refused (npy : Bool) (w : World) :
    step npy w (.parallelStart false) = (w, .rejected) :=
  rfl

/-- with consent `step` never refuses: a valid run succeeds in whatever state the earlier operations,
    refused or failed starts among them, have left the path -/
theorem next_valid_run_succeeds (npy : Bool) (w : World) (ops : List Op) :
    (step npy (run npy w ops) (.sample .valid true)).2 = .ok := by
  simp [step]

theorem stepAt_frame (npy : Bool) (d : Disk) (p : Nat) (o : Op) (q : Nat) (hq : q ≠ p) :
    (stepAt npy d (p, o)).1 q = d q :=
  if_neg hq

theorem stepAt_self (npy : Bool) (d : Disk) (p : Nat) (o : Op) :
    (stepAt npy d (p, o)).1 p = (step npy (d p) o).1 :=
  if_pos rfl

theorem runAt_no_consent (npy : Bool) (d : Disk) (ops : List (Nat × Op)) (q : Nat)
    (hc : ∀ po ∈ ops, po.1 = q → po.2.consents = false) (hex : exists_ (d q) npy = true) :
    runAt npy d ops q = d q :=
  List.foldlRecOn (motive := fun d' : Disk => d' q = d q) ops _ rfl fun d' hd po hpo => by
    obtain ⟨p, o⟩ := po
    by_cases hpq : q = p
    · subst hpq
      rw [stepAt_self, hd]
      exact step_no_consent npy (d q) o (hc _ hpo rfl) hex
    · rw [stepAt_frame npy d' p o q hpq]
      exact hd

/-- **every sequence of operations on any paths**: a path that exists, and at which no operation
    with `overwrite = True` is aimed, keeps its file and sidecar — whatever is aimed (with or
    without consent, valid or invalid) at other paths, e.g. by a sampler object that still holds
    this path's handle from an earlier run -/
theorem no_consent_no_change_any_path (npy : Bool) (d : Disk) (ops : List (Nat × Op)) (q : Nat)
    (hc : ∀ po ∈ ops, po.1 = q → po.2.consents = false) (hex : exists_ (d q) npy = true) :
    (runAt npy d ops q).file = (d q).file ∧ (runAt npy d ops q).sidecar = (d q).sidecar := by
  rw [runAt_no_consent npy d ops q hc hex]
  exact ⟨rfl, rfl⟩

/-- copying a writer, and closing or dropping a copy, write nothing and lose nothing -/
theorem copies_write_nothing (w : Writer) :
    (wstep w .copy).file = w.file ∧ (wstep w .copy).buf = w.buf ∧ (wstep w .copy).closed = w.closed ∧
    (wstep w .closeCopy).file = w.file ∧ (wstep w .closeCopy).buf = w.buf ∧ (wstep w .closeCopy).closed = w.closed :=
  ⟨rfl, rfl, rfl, rfl, rfl, rfl⟩

/-- a closed owner ignores every operation; only the count of its copies changes -/
theorem wstep_closed (w : Writer) (o : WOp) (hc : w.closed = true) :
    (wstep w o).file = w.file ∧ (wstep w o).buf = w.buf ∧ (wstep w o).closed = true := by
  cases o with
  | append _ | flush | close => rw [wstep, if_pos hc]; exact ⟨rfl, rfl, hc⟩
  | copy | closeCopy => exact ⟨rfl, rfl, hc⟩

/-- once the owner is closed the file on disk never changes again, whatever is done with the copies -/
theorem closed_file_is_final (w : Writer) (ops : List WOp) (hc : w.closed = true) :
    (wrun w ops).file = w.file ∧ (wrun w ops).closed = true :=
  List.foldlRecOn (motive := fun v : Writer => v.file = w.file ∧ v.closed = true) ops _ ⟨rfl, hc⟩
    fun v hv o _ => ⟨(wstep_closed v o hv.2).1.trans hv.1, (wstep_closed v o hv.2).2.2⟩

/-- nothing is lost or duplicated: on disk plus pending = what was there plus the appends that reached the open owner -/
theorem content_is_appended (w : Writer) (ops : List WOp) :
    (wrun w ops).content = w.content ++ accepted w.closed ops := by
  induction ops generalizing w with
  | nil => exact (List.append_nil _).symm
  | cons o rest ih =>
    rw [wrun, List.foldl_cons, ← wrun, ih]
    cases hc : w.closed with
    | true =>
      -- a closed owner ignores `o`, and so does `accepted true`
      obtain ⟨hf, hb, hcl⟩ := wstep_closed w o hc
      rw [Writer.content, hf, hb, hcl]
      cases o <;> rfl
    | false => cases o <;> simp [wstep, accepted, hc, Writer.content]

/-- a closed owner has nothing pending: the file holds every accepted column -/
theorem closed_nothing_pending (w : Writer) (ops : List WOp) (h0 : w.closed = true → w.buf = []) :
    (wrun w ops).closed = true → (wrun w ops).buf = [] :=
  List.foldlRecOn (motive := fun v : Writer => v.closed = true → v.buf = []) ops _ h0 fun v hv o _ => by
    cases hc : v.closed with
    | true => rw [(wstep_closed v o hc).2.1]; exact fun _ => hv hc
    | false =>
      -- what closes an open owner also writes out its buffer
      cases o <;> simp [wstep, hc]

/-- two writers alive at the same time: an operation is addressed to one of them (`false` = the first) -/
def wstep2 (s : Writer × Writer) (a : Bool × WOp) : Writer × Writer :=
  if a.1 then (s.1, wstep s.2 a.2) else (wstep s.1 a.2, s.2)
def wrun2 (s : Writer × Writer) (ops : List (Bool × WOp)) : Writer × Writer := ops.foldl wstep2 s

/-- the operations addressed to one of the writers -/
def opsOf (b : Bool) (ops : List (Bool × WOp)) : List WOp := (ops.filter (fun a => a.1 == b)).map (·.2)

/-- **two writers do not see each other**: whatever the interleaving, each writer ends where it would
    have ended alone with the operations addressed to it (its file holds its own columns, in order) -/
theorem two_writers_independent (s : Writer × Writer) (ops : List (Bool × WOp)) :
    wrun2 s ops = (wrun s.1 (opsOf false ops), wrun s.2 (opsOf true ops)) := by
  induction ops generalizing s with
  | nil => rfl
  | cons a rest ih =>
    obtain ⟨b, o⟩ := a
    simp only [wrun2, List.foldl_cons] at ih ⊢
    rw [ih]
    cases b <;> simp [wstep2, opsOf, wrun]

/-! ### non-vacuity -/
example : (wrun ⟨[], [], false, 0⟩ [.copy, .append 1, .append 2, .flush, .append 3, .close, .closeCopy, .append 4]).file = [1, 2, 3] := by decide

example : exists_ { file := some 0, sidecar := none, handles := 0, fresh := 1 } false = true := by decide
example : (run false { file := some 0, sidecar := none, handles := 0, fresh := 1 }
    [.sample .valid false, .deepcopyObj, .sample .afterOpen false, .openWrite false, .loadResults]).file = some 0 := by decide

end C11
end HmcVerif
