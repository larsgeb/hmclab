import HmcVerif.Props.C01
import Mathlib.Analysis.SpecialFunctions.Exp
import Mathlib.MeasureTheory.Constructions.BorelSpace.Real
/-
  C04 — a transition started on the target stays on the target (stationarity).
  Every `*_invariant` theorem below `kernelOf` is an instance of `gibbs_invariant`, `kernelOf_invariant` or
  `kernelOf_randomised_invariant`, except `rwmh_invariant_bounded` (a density that vanishes off the support:
  `metropolis_invariant` with `rule_is_min_on`).
-/
-- `[Fintype ι]` is in scope of whole sections; `rule_is_min_on`, `boxReflProd_measurable` and the involution lemmas do not use it
set_option linter.unusedSectionVars false
open MeasureTheory ENNReal
namespace HmcVerif
namespace C04

/-- the acceptance test `u < exp(E − E')`, `u` uniform on [0,1), accepts with probability `min 1 (exp(E − E'))` -/
theorem accept_probability (r : ℝ) (hr : 0 ≤ r) :
    volume {u : ℝ | u ∈ Set.Ico (0:ℝ) 1 ∧ u < r} = ENNReal.ofReal (min 1 r) := by
  have : {u : ℝ | u ∈ Set.Ico (0:ℝ) 1 ∧ u < r} = Set.Ico 0 (min 1 r) :=
    Set.ext fun u => by simp only [Set.mem_ofPred_eq, Set.mem_Ico, lt_min_iff, and_assoc]
  rw [this, Real.volume_Ico, sub_zero]

theorem rule_is_min {X : Type*} (H : X → ℝ) (Ψ : X → X) (x : X) :
    ENNReal.ofReal (Real.exp (-H x)) * ENNReal.ofReal (min 1 (Real.exp (H x - H (Ψ x))))
      = min (ENNReal.ofReal (Real.exp (-H x))) (ENNReal.ofReal (Real.exp (-H (Ψ x)))) := by
  rw [← ENNReal.ofReal_mul (Real.exp_pos _).le, ← ENNReal.ofReal_min]
  congr 1
  rw [mul_min_of_nonneg _ _ (Real.exp_pos _).le, mul_one, ← Real.exp_add]
  congr 2
  ring

/-- for a density that may vanish (a box-truncated target) the rule reads `a = min 1 (π∘Ψ / π)`; `rule_is_min_on` is
    the form the code computes -/
theorem rule_is_min_general {X : Type*} (π : X → ℝ≥0∞) (Ψ : X → X) (x : X) (hfin : π x ≠ ∞) :
    π x * min 1 (π (Ψ x) / π x) = min (π x) (π (Ψ x)) := by
  by_cases h0 : π x = 0
  · rw [h0, zero_mul, min_eq_left zero_le]
  · rw [mul_min, mul_one, ENNReal.mul_div_cancel h0 hfin]

section mixture
variable {X Ω : Type*} [MeasurableSpace X] [MeasurableSpace Ω] (μ : Measure X) [SFinite μ]
  (ν : Measure Ω) [IsProbabilityMeasure ν]

theorem mixture_invariant (π : X → ℝ≥0∞) (hπ : Measurable π)
    (K : Ω → (X → ℝ≥0∞) → (X → ℝ≥0∞)) (g : X → ℝ≥0∞)
    (hjoint : Measurable (fun p : X × Ω => K p.2 g p.1))
    (hinv : ∀ u, ∫⁻ x, π x * K u g x ∂μ = ∫⁻ x, π x * g x ∂μ) :
    ∫⁻ x, π x * (∫⁻ u, K u g x ∂ν) ∂μ = ∫⁻ x, π x * g x ∂μ := by
  have hsec : ∀ x, Measurable (fun u => K u g x) := fun x => hjoint.comp (measurable_prodMk_left)
  calc ∫⁻ x, π x * (∫⁻ u, K u g x ∂ν) ∂μ
      = ∫⁻ x, ∫⁻ u, π x * K u g x ∂ν ∂μ := lintegral_congr fun x => (lintegral_const_mul _ (hsec x)).symm
    _ = ∫⁻ u, ∫⁻ x, π x * K u g x ∂μ ∂ν := lintegral_lintegral_swap ((hπ.comp measurable_fst).mul hjoint).aemeasurable
    _ = ∫⁻ _, ∫⁻ x, π x * g x ∂μ ∂ν := lintegral_congr hinv
    _ = ∫⁻ x, π x * g x ∂μ := by rw [lintegral_const, measure_univ, mul_one]
end mixture

section measurability
variable {X : Type*} [MeasurableSpace X]

theorem boltzmann_measurable {H : X → ℝ} (hH : Measurable H) : Measurable fun x => ENNReal.ofReal (Real.exp (-H x)) :=
  ENNReal.measurable_ofReal.comp (Real.continuous_exp.measurable.comp hH.neg)

theorem acceptance_measurable {E E' : X → ℝ} (hE : Measurable E) (hE' : Measurable E') :
    Measurable fun x => ENNReal.ofReal (min 1 (Real.exp (E x - E' x))) :=
  ENNReal.measurable_ofReal.comp (measurable_const.min (Real.continuous_exp.measurable.comp (hE.sub hE')))
end measurability

theorem gibbs_invariant {X : Type*} [MeasurableSpace X] (μ : Measure X) (H : X → ℝ) (hH : Measurable H)
    (Ψ : X → X) (hΨ : MeasurePreserving Ψ μ μ) (hinv : ∀ᵐ x ∂μ, Ψ (Ψ x) = x) (g : X → ℝ≥0∞) (hg : Measurable g) :
    ∫⁻ x, ENNReal.ofReal (Real.exp (-H x))
        * metropolisOp Ψ (fun x => ENNReal.ofReal (min 1 (Real.exp (H x - H (Ψ x))))) g x ∂μ
      = ∫⁻ x, ENNReal.ofReal (Real.exp (-H x)) * g x ∂μ :=
  metropolis_invariant_ae μ Ψ hΨ hinv _ _ (boltzmann_measurable hH) (acceptance_measurable hH (hH.comp hΨ.measurable))
    (fun _ => ENNReal.ofReal_ne_top) (rule_is_min H Ψ) g hg

section kernelOf
variable {Q P : Type*}

/-- the transition as the code runs it, on a phase space `Q × P` with energy `H`: the proposal is the trajectory `T`
    without the momentum flip, and only the position is kept (`f` is a test function of the position).
    `codeKernel`, `codeKernel1`, `codeKernelBox` unfold to this with their energy and trajectory put in. -/
noncomputable def kernelOf (H : Q × P → ℝ) (T : Q × P → Q × P) (f : Q → ℝ≥0∞) (x : Q × P) : ℝ≥0∞ :=
  ENNReal.ofReal (min 1 (Real.exp (H x - H (T x)))) * f (T x).1
    + (1 - ENNReal.ofReal (min 1 (Real.exp (H x - H (T x))))) * f x.1

/-- a separable energy `U(q) + K(p)` (`energy`, `energy1`) does not see the sign of the momentum if `K` is even -/
theorem separable_flip [Neg P] (U : Q → ℝ) {K : P → ℝ} (hK : ∀ p, K (-p) = K p) (y : Q × P) :
    U (y.1, -y.2).1 + K (y.1, -y.2).2 = U y.1 + K y.2 :=
  congrArg (U y.1 + ·) (hK y.2)

variable [MeasurableSpace Q] [MeasurableSpace P]

theorem separable_measurable {U : Q → ℝ} {K : P → ℝ} (hU : Measurable U) (hK : Measurable K) :
    Measurable fun x : Q × P => U x.1 + K x.2 :=
  (hU.comp measurable_fst).add (hK.comp measurable_snd)

/-- **stationarity of the position**: if the energy does not see the sign of the momentum and `flip ∘ T`
    preserves `μ` and is an involution almost everywhere, then from `(q, p) ∼ exp(−H) μ` the transition gives
    `E[f(q')] = E[f(q)]` for every test function -/
theorem kernelOf_invariant [Neg P] (μ : Measure (Q × P)) (H : Q × P → ℝ) (hH : Measurable H)
    (hflip : ∀ y : Q × P, H (y.1, -y.2) = H y) (T : Q × P → Q × P)
    (hΨ : MeasurePreserving (fun x => ((T x).1, -(T x).2)) μ μ)
    (hinv : ∀ᵐ x ∂μ, ((T ((T x).1, -(T x).2)).1, -(T ((T x).1, -(T x).2)).2) = x)
    (f : Q → ℝ≥0∞) (hf : Measurable f) :
    ∫⁻ x, ENNReal.ofReal (Real.exp (-H x)) * kernelOf H T f x ∂μ = ∫⁻ x, ENNReal.ofReal (Real.exp (-H x)) * f x.1 ∂μ := by
  rw [← gibbs_invariant μ H hH _ hΨ hinv (fun x => f x.1) (hf.comp measurable_fst)]
  simp only [kernelOf, metropolisOp, hflip]

/-- a factor `u` drawn from a probability law `ν`, independently of the state, selects the trajectory `T u`;
    if every one of these transitions is stationary, so is the randomised one (`mixture_invariant`; the joint
    measurability it asks for follows from that of `T`) -/
theorem kernelOf_randomised_invariant (μ : Measure (Q × P)) [SFinite μ] (ν : Measure ℝ) [IsProbabilityMeasure ν]
    (H : Q × P → ℝ) (hH : Measurable H) (T : ℝ → Q × P → Q × P) (hT : Measurable fun p : (Q × P) × ℝ => T p.2 p.1)
    (f : Q → ℝ≥0∞) (hf : Measurable f)
    (hinv : ∀ u, ∫⁻ x, ENNReal.ofReal (Real.exp (-H x)) * kernelOf H (T u) f x ∂μ
      = ∫⁻ x, ENNReal.ofReal (Real.exp (-H x)) * f x.1 ∂μ) :
    ∫⁻ x, ENNReal.ofReal (Real.exp (-H x)) * (∫⁻ u, kernelOf H (T u) f x ∂ν) ∂μ
      = ∫⁻ x, ENNReal.ofReal (Real.exp (-H x)) * f x.1 ∂μ := by
  have hacc : Measurable (fun p : (Q × P) × ℝ => ENNReal.ofReal (min 1 (Real.exp (H p.1 - H (T p.2 p.1))))) :=
    acceptance_measurable (hH.comp measurable_fst) (hH.comp hT)
  -- `mixture_invariant` for the family `u ↦ kernelOf H (T u) f` (the test function `f` is fixed) and `g = f ∘ fst`
  exact mixture_invariant μ ν _ (boltzmann_measurable hH) (fun u _ => kernelOf H (T u) f) (fun x => f x.1)
    ((hacc.mul (hf.comp (measurable_fst.comp hT))).add
      ((measurable_const.sub hacc).mul (hf.comp (measurable_fst.comp measurable_fst)))) hinv
end kernelOf

section hmc
variable {ι : Type} [Fintype ι]

abbrev Phase (ι : Type) := Vec ι × Vec ι

def flipP (x : Phase ι) : Phase ι := (x.1, -x.2)
def proposeP (vel grad : Vec ι → Vec ι) (ops : List (Op ℝ)) (x : Phase ι) : Phase ι :=
  toProd (runOps vel grad id ops (ofProd x))
def psi (vel grad : Vec ι → Vec ι) (ops : List (Op ℝ)) (x : Phase ι) : Phase ι := flipP (proposeP vel grad ops x)

theorem flipP_measurePreserving :
    MeasurePreserving (flipP : Phase ι → Phase ι) ((volume : Measure (Vec ι)).prod volume)
      ((volume : Measure (Vec ι)).prod volume) :=
  flipN_mp

theorem psi_measurePreserving_ops (vel grad : Vec ι → Vec ι) (hv : Measurable vel) (hg : Measurable grad)
    (ops : List (Op ℝ)) :
    MeasurePreserving (psi vel grad ops) ((volume : Measure (Vec ι)).prod volume)
      ((volume : Measure (Vec ι)).prod volume) :=
  flipP_measurePreserving.comp (propose_volume_preserving vel grad hv hg ops)

theorem psi_measurePreserving (vel grad : Vec ι → Vec ι) (hv : Measurable vel) (hg : Measurable grad)
    (c : Coeffs ℝ) (i : Integrator) (h : ℝ) (n : Nat) :
    MeasurePreserving (psi vel grad (schedule c i h n)) ((volume : Measure (Vec ι)).prod volume)
      ((volume : Measure (Vec ι)).prod volume) :=
  psi_measurePreserving_ops vel grad hv hg _

/-- for every palindromic op list (every integrator schedule, and the one-drift RWMH proposal) -/
theorem psi_involution_of_palindrome (vel grad : Vec ι → Vec ι) (hodd : ∀ p, vel (-p) = -vel p)
    (ops : List (Op ℝ)) (hp : ops.reverse = ops) (x : Phase ι) :
    psi vel grad ops (psi vel grad ops x) = x := by
  have hr : proposeP vel grad ops (flipP (proposeP vel grad ops x)) = flipP x :=
    congrArg toProd (Split.palindrome_reversible _ _ (C01.op_reversible vel grad hodd) ops hp (ofProd x))
  unfold psi
  rw [hr]
  exact Prod.ext rfl (neg_neg _)

theorem psi_involution (vel grad : Vec ι → Vec ι) (hodd : ∀ p, vel (-p) = -vel p)
    (c : Coeffs ℝ) (i : Integrator) (h : ℝ) (n : Nat) (x : Phase ι) :
    psi vel grad (schedule c i h n) (psi vel grad (schedule c i h n) x) = x :=
  psi_involution_of_palindrome vel grad hodd _ (C01.schedule_palindrome c i h n) x

def energy (U K : Vec ι → ℝ) (x : Phase ι) : ℝ := U x.1 + K x.2

noncomputable def gibbs (U K : Vec ι → ℝ) (x : Phase ι) : ℝ≥0∞ := ENNReal.ofReal (Real.exp (-energy U K x))

/-- acceptance probability of the rule `u < exp(H(x) − H(proposal))` -/
noncomputable def acceptProb (U K : Vec ι → ℝ) (Ψ : Phase ι → Phase ι) (x : Phase ι) : ℝ≥0∞ :=
  ENNReal.ofReal (min 1 (Real.exp (energy U K x - energy U K (Ψ x))))

/-- **joint invariance**: one Metropolis-corrected trajectory leaves `exp(−U(q) − K(p))` invariant —
    every palindromic op list, every measurable gradient, every odd measurable velocity map,
    every measurable potential and kinetic energy -/
theorem joint_invariant (U K : Vec ι → ℝ) (hU : Measurable U) (hK : Measurable K)
    (vel grad : Vec ι → Vec ι) (hv : Measurable vel) (hg : Measurable grad) (hodd : ∀ p, vel (-p) = -vel p)
    (ops : List (Op ℝ)) (hp : ops.reverse = ops) (g : Phase ι → ℝ≥0∞) (hgm : Measurable g) :
    ∫⁻ x, gibbs U K x * metropolisOp (psi vel grad ops) (acceptProb U K (psi vel grad ops)) g x
        ∂((volume : Measure (Vec ι)).prod volume)
      = ∫⁻ x, gibbs U K x * g x ∂((volume : Measure (Vec ι)).prod volume) :=
  gibbs_invariant _ (energy U K) (separable_measurable hU hK) _ (psi_measurePreserving_ops vel grad hv hg ops)
    (ae_of_all _ (psi_involution_of_palindrome vel grad hodd ops hp)) g hgm

noncomputable def codeKernel (U K : Vec ι → ℝ) (vel grad : Vec ι → Vec ι) (ops : List (Op ℝ))
    (f : Vec ι → ℝ≥0∞) (x : Phase ι) : ℝ≥0∞ :=
  ENNReal.ofReal (min 1 (Real.exp (energy U K x - energy U K (proposeP vel grad ops x)))) * f (proposeP vel grad ops x).1
    + (1 - ENNReal.ofReal (min 1 (Real.exp (energy U K x - energy U K (proposeP vel grad ops x))))) * f x.1

/-- **stationarity of the position**: if `(q, p)` is distributed as `exp(−U(q) − K(p))` (q from the
    target, p from the momentum refresh) then after the transition `E[f(q')] = E[f(q)]` for every
    test function — i.e. `q'` is again distributed as the target -/
theorem position_invariant (U K : Vec ι → ℝ) (hU : Measurable U) (hK : Measurable K) (hKeven : ∀ p, K (-p) = K p)
    (vel grad : Vec ι → Vec ι) (hv : Measurable vel) (hg : Measurable grad) (hodd : ∀ p, vel (-p) = -vel p)
    (ops : List (Op ℝ)) (hp : ops.reverse = ops) (f : Vec ι → ℝ≥0∞) (hf : Measurable f) :
    ∫⁻ x, gibbs U K x * codeKernel U K vel grad ops f x ∂((volume : Measure (Vec ι)).prod volume)
      = ∫⁻ x, gibbs U K x * f x.1 ∂((volume : Measure (Vec ι)).prod volume) :=
  kernelOf_invariant _ (energy U K) (separable_measurable hU hK) (separable_flip U hKeven) (proposeP vel grad ops)
    (psi_measurePreserving_ops vel grad hv hg ops) (ae_of_all _ (psi_involution_of_palindrome vel grad hodd ops hp)) f hf

theorem hmc_invariant (U K : Vec ι → ℝ) (hU : Measurable U) (hK : Measurable K) (hKeven : ∀ p, K (-p) = K p)
    (vel grad : Vec ι → Vec ι) (hv : Measurable vel) (hg : Measurable grad) (hodd : ∀ p, vel (-p) = -vel p)
    (c : Coeffs ℝ) (i : Integrator) (h : ℝ) (n : Nat) (f : Vec ι → ℝ≥0∞) (hf : Measurable f) :
    ∫⁻ x, gibbs U K x * codeKernel U K vel grad (schedule c i h n) f x ∂((volume : Measure (Vec ι)).prod volume)
      = ∫⁻ x, gibbs U K x * f x.1 ∂((volume : Measure (Vec ι)).prod volume) :=
  position_invariant U K hU hK hKeven vel grad hv hg hodd _ (C01.schedule_palindrome c i h n) f hf

theorem rwmhKinetic_measurable : Measurable (fun z : Vec ι => (1 / 2) * ∑ j, z j ^ 2) :=
  (Finset.measurable_sum _ (fun j _ => (measurable_pi_apply j).pow_const 2)).const_mul _

/-- RWMH with scalar or per-dimension step `s`: the proposal `(q, z) ↦ (q + s ⊙ z, z)` is the
    one-drift scheme with velocity `z ↦ s ⊙ z`; the auxiliary energy is `½|z|²` -/
theorem rwmh_invariant (U : Vec ι → ℝ) (hU : Measurable U) (s : Vec ι) (f : Vec ι → ℝ≥0∞) (hf : Measurable f) :
    let K : Vec ι → ℝ := fun z => (1 / 2) * ∑ j, z j ^ 2
    let vel : Vec ι → Vec ι := fun z => s * z
    ∫⁻ x, gibbs U K x * codeKernel U K vel (fun _ => 0) [Op.drift 1] f x ∂((volume : Measure (Vec ι)).prod volume)
      = ∫⁻ x, gibbs U K x * f x.1 ∂((volume : Measure (Vec ι)).prod volume) :=
  position_invariant U _ hU rwmhKinetic_measurable (fun p => by simp only [Pi.neg_apply, neg_sq]) _ _
    (measurable_const_mul s) measurable_const (mul_neg s) [Op.drift 1] rfl f hf

/-- in the RWMH kernel the acceptance ratio only involves the target misfit: the auxiliary
    energies cancel — `H(q,z) − H(q',z) = U(q) − U(q')` -/
theorem rwmh_ratio (U : Vec ι → ℝ) (q q' z : Vec ι) :
    energy U (fun z => (1 / 2) * ∑ j, z j ^ 2) (q, z) - energy U (fun z => (1 / 2) * ∑ j, z j ^ 2) (q', z)
      = U q - U q' :=
  add_sub_add_right_eq_sub _ _ _

noncomputable def gibbsOn (B : Set (Vec ι)) (U K : Vec ι → ℝ) (x : Phase ι) : ℝ≥0∞ :=
  B.indicator (fun _ => (1 : ℝ≥0∞)) x.1 * gibbs U K x

/-- acceptance probability as the code computes it: `exp(E − E')`, where `E' = +∞` outside the support -/
noncomputable def acceptOn (B : Set (Vec ι)) (U K : Vec ι → ℝ) (Ψ : Phase ι → Phase ι) (x : Phase ι) : ℝ≥0∞ :=
  B.indicator (fun _ => (1 : ℝ≥0∞)) (Ψ x).1 * acceptProb U K Ψ x

theorem rule_is_min_on (B : Set (Vec ι)) (U K : Vec ι → ℝ) (Ψ : Phase ι → Phase ι) (x : Phase ι) :
    gibbsOn B U K x * acceptOn B U K Ψ x = min (gibbsOn B U K x) (gibbsOn B U K (Ψ x)) := by
  unfold gibbsOn acceptOn
  by_cases h1 : x.1 ∈ B
  · by_cases h2 : (Ψ x).1 ∈ B
    · rw [Set.indicator_of_mem h1, Set.indicator_of_mem h2, one_mul, one_mul, one_mul]
      exact rule_is_min (energy U K) Ψ x
    · -- a proposal outside the support is never accepted, and the density vanishes there
      rw [Set.indicator_of_notMem h2, zero_mul, zero_mul, mul_zero, min_eq_right zero_le]
  · rw [Set.indicator_of_notMem h1, zero_mul, zero_mul, min_eq_left zero_le]

/-- RWMH on a target with bounded support (any measurable support `B`): no corrector is involved - a proposal
    outside has misfit `+∞`, acceptance probability `exp(−∞) = 0` - and the truncated density is invariant -/
theorem rwmh_invariant_bounded (B : Set (Vec ι)) (hB : MeasurableSet B) (U : Vec ι → ℝ) (hU : Measurable U) (s : Vec ι)
    (G : Phase ι → ℝ≥0∞) (hG : Measurable G) :
    let K : Vec ι → ℝ := fun z => (1 / 2) * ∑ j, z j ^ 2
    let Ψ : Phase ι → Phase ι := psi (fun z => s * z) (fun _ => 0) [Op.drift 1]
    ∫⁻ x, gibbsOn B U K x * metropolisOp Ψ (acceptOn B U K Ψ) G x ∂((volume : Measure (Vec ι)).prod volume)
      = ∫⁻ x, gibbsOn B U K x * G x ∂((volume : Measure (Vec ι)).prod volume) := by
  intro K Ψ
  have hΨ := psi_measurePreserving_ops (fun z => s * z) (fun _ => 0) (measurable_const_mul s) measurable_const [Op.drift 1]
  have hH : Measurable (energy U K) := separable_measurable hU rwmhKinetic_measurable
  have hind : Measurable (fun x : Phase ι => B.indicator (fun _ => (1 : ℝ≥0∞)) x.1) :=
    (measurable_const.indicator hB).comp measurable_fst
  exact metropolis_invariant _ Ψ hΨ (psi_involution_of_palindrome _ _ (mul_neg s) [Op.drift 1] rfl) _ _
    (hind.mul (boltzmann_measurable hH)) ((hind.comp hΨ.measurable).mul (acceptance_measurable hH (hH.comp hΨ.measurable)))
    (fun x => ENNReal.mul_ne_top (ne_top_of_le_ne_top ENNReal.one_ne_top (Set.indicator_le_self B _ x.1))
      ENNReal.ofReal_ne_top)
    (rule_is_min_on B U K Ψ) G hG

end hmc

/-! ### boxed targets, one coordinate: stationarity **with** reflections

   The target lives on `l < q < u` (density `exp(−U(q))` there, zero outside); every drift is followed by the
   corrector (`cdriftMap`), however many walls it crosses.  `w` is the inverse mass of the coordinate, `g` the
   gradient the code evaluates (any measurable function - it need not be the derivative of `U`). -/
section boxed
def energy1 (U K : ℝ → ℝ) (z : ℝ × ℝ) : ℝ := U z.1 + K z.2
noncomputable def gibbs1 (U K : ℝ → ℝ) (z : ℝ × ℝ) : ℝ≥0∞ := ENNReal.ofReal (Real.exp (-energy1 U K z))
noncomputable def psi1 (l u w : ℝ) (g : ℝ → ℝ) (ops : List (Op ℝ)) (z : ℝ × ℝ) : ℝ × ℝ := flip1 (traj1 l u w g ops z)
noncomputable def acceptProb1 (U K : ℝ → ℝ) (Ψ : ℝ × ℝ → ℝ × ℝ) (z : ℝ × ℝ) : ℝ≥0∞ :=
  ENNReal.ofReal (min 1 (Real.exp (energy1 U K z - energy1 U K (Ψ z))))

theorem psi1_measurePreserving (l u w : ℝ) (hlu : l < u) (g : ℝ → ℝ) (hg : Measurable g) (ops : List (Op ℝ)) :
    MeasurePreserving (psi1 l u w g ops) (volume.restrict (openStrip l u)) (volume.restrict (openStrip l u)) :=
  (flip1_mp_strip l u).comp (traj1_mp_strip l u w hlu g hg ops)

/-- **joint invariance in a box**: the Metropolis-corrected trajectory with reflections leaves
    `exp(−U(q) − K(p))` restricted to the box invariant - every palindromic op list, every box of positive
    width, every drift length -/
theorem boxed_joint_invariant_1d (l u w : ℝ) (hlu : l < u) (U K : ℝ → ℝ) (hU : Measurable U) (hK : Measurable K)
    (g : ℝ → ℝ) (hg : Measurable g) (ops : List (Op ℝ)) (hp : ops.reverse = ops)
    (G : ℝ × ℝ → ℝ≥0∞) (hG : Measurable G) :
    ∫⁻ z, gibbs1 U K z * metropolisOp (psi1 l u w g ops) (acceptProb1 U K (psi1 l u w g ops)) G z
        ∂(volume.restrict (openStrip l u))
      = ∫⁻ z, gibbs1 U K z * G z ∂(volume.restrict (openStrip l u)) :=
  gibbs_invariant _ (energy1 U K) (separable_measurable hU hK) _ (psi1_measurePreserving l u w hlu g hg ops)
    (psi1_involution_ae l u w hlu g hg ops hp) G hG

noncomputable def codeKernel1 (l u w : ℝ) (U K : ℝ → ℝ) (g : ℝ → ℝ) (ops : List (Op ℝ)) (f : ℝ → ℝ≥0∞) (z : ℝ × ℝ) : ℝ≥0∞ :=
  ENNReal.ofReal (min 1 (Real.exp (energy1 U K z - energy1 U K (traj1 l u w g ops z)))) * f (traj1 l u w g ops z).1
    + (1 - ENNReal.ofReal (min 1 (Real.exp (energy1 U K z - energy1 U K (traj1 l u w g ops z))))) * f z.1

theorem boxed_position_invariant_1d (l u w : ℝ) (hlu : l < u) (U K : ℝ → ℝ) (hU : Measurable U) (hK : Measurable K)
    (hKeven : ∀ p, K (-p) = K p) (g : ℝ → ℝ) (hg : Measurable g) (ops : List (Op ℝ)) (hp : ops.reverse = ops)
    (f : ℝ → ℝ≥0∞) (hf : Measurable f) :
    ∫⁻ z, gibbs1 U K z * codeKernel1 l u w U K g ops f z ∂(volume.restrict (openStrip l u))
      = ∫⁻ z, gibbs1 U K z * f z.1 ∂(volume.restrict (openStrip l u)) :=
  kernelOf_invariant _ (energy1 U K) (separable_measurable hU hK) (separable_flip U hKeven) (traj1 l u w g ops)
    (psi1_measurePreserving l u w hlu g hg ops) (psi1_involution_ae l u w hlu g hg ops hp) f hf

theorem boxed_hmc_invariant_1d (l u w : ℝ) (hlu : l < u) (U K : ℝ → ℝ) (hU : Measurable U) (hK : Measurable K)
    (hKeven : ∀ p, K (-p) = K p) (g : ℝ → ℝ) (hg : Measurable g)
    (c : Coeffs ℝ) (i : Integrator) (h : ℝ) (n : Nat) (f : ℝ → ℝ≥0∞) (hf : Measurable f) :
    ∫⁻ z, gibbs1 U K z * codeKernel1 l u w U K g (schedule c i h n) f z ∂(volume.restrict (openStrip l u))
      = ∫⁻ z, gibbs1 U K z * f z.1 ∂(volume.restrict (openStrip l u)) :=
  boxed_position_invariant_1d l u w hlu U K hU hK hKeven g hg _ (C01.schedule_palindrome c i h n) f hf

/-- the model's trajectory on one coordinate is `traj1`: `stepOp` with the diagonal velocity `w · p` and the
    box corrector, read on `ι = Unit` -/
theorem traj1_is_model_step (l u w : ℝ) (g : ℝ → ℝ) (o : Op ℝ) (z : ℝ × ℝ) :
    step1 l u w g z o =
      (let s := stepOp (C01.diagVel (fun _ : Unit => w)) (fun q _ => g (q ()))
          (C01.boxRefl (fun _ => some l) (fun _ => some u)) ⟨fun _ => z.1, fun _ => z.2⟩ o
       (s.q (), s.p ())) := by
  cases o with
  | drift c =>
    simp only [step1, cdriftMap, cdrift1, stepOp, C01.boxRefl, C01.diagVel, Pi.add_apply, Pi.smul_apply, smul_eq_mul,
      mul_assoc, Prod.mk.eta]
  | kick c => rfl
end boxed

section randomised
variable {ι : Type} [Fintype ι]

/-- a sub-step whose coefficient is scaled by `u` is jointly measurable in `(state, u)`, whatever measurable corrector
    follows the drift -/
theorem scaledStep_measurable (vel grad : Vec ι → Vec ι) (hv : Measurable vel) (hg : Measurable grad)
    (refl : PS (Vec ι) → PS (Vec ι)) (hrefl : Measurable fun x : Phase ι => toProd (refl (ofProd x))) (o : Op ℝ) :
    Measurable fun p : Phase ι × ℝ => toProd (stepOp vel grad refl (ofProd p.1) (C01.scaleOp p.2 o)) := by
  have hq : Measurable fun p : Phase ι × ℝ => p.1.1 := measurable_fst.comp measurable_fst
  have hp : Measurable fun p : Phase ι × ℝ => p.1.2 := measurable_snd.comp measurable_fst
  have hu : ∀ c : ℝ, Measurable fun p : Phase ι × ℝ => p.2 * c := fun c => measurable_snd.mul_const c
  cases o with
  | drift c =>
    exact hrefl.comp (f := fun p : Phase ι × ℝ => (p.1.1 + (p.2 * c) • vel p.1.2, p.1.2))
      ((hq.add ((hu c).smul (hv.comp hp))).prodMk hp)
  | kick c => exact hq.prodMk (hp.sub ((hu c).smul (hg.comp hq)))

theorem scaledRun_measurable (vel grad : Vec ι → Vec ι) (hv : Measurable vel) (hg : Measurable grad)
    (refl : PS (Vec ι) → PS (Vec ι)) (hrefl : Measurable fun x : Phase ι => toProd (refl (ofProd x))) (ops : List (Op ℝ)) :
    Measurable fun p : Phase ι × ℝ => toProd (runOps vel grad refl (ops.map (C01.scaleOp p.2)) (ofProd p.1)) := by
  induction ops with
  | nil => exact measurable_fst
  | cons o os ih =>
    exact ih.comp (f := fun p : Phase ι × ℝ => (toProd (stepOp vel grad refl (ofProd p.1) (C01.scaleOp p.2 o)), p.2))
      ((scaledStep_measurable vel grad hv hg refl hrefl o).prodMk measurable_snd)

/-- **HMC with a randomised step size is stationary**: the factor `u` is drawn from any probability law `ν`
    (the code: uniform on [0.5, 1.5)) independently of the state, once per trajectory -/
theorem hmc_randomised_invariant (U K : Vec ι → ℝ) (hU : Measurable U) (hK : Measurable K) (hKeven : ∀ p, K (-p) = K p)
    (vel grad : Vec ι → Vec ι) (hv : Measurable vel) (hg : Measurable grad) (hodd : ∀ p, vel (-p) = -vel p)
    (c : Coeffs ℝ) (i : Integrator) (h : ℝ) (n : Nat) (ν : Measure ℝ) [IsProbabilityMeasure ν]
    (f : Vec ι → ℝ≥0∞) (hf : Measurable f) :
    ∫⁻ x, gibbs U K x * (∫⁻ u, codeKernel U K vel grad (schedule c i (localStep true u h) n) f x ∂ν)
        ∂((volume : Measure (Vec ι)).prod volume)
      = ∫⁻ x, gibbs U K x * f x.1 ∂((volume : Measure (Vec ι)).prod volume) := by
  refine kernelOf_randomised_invariant _ ν (energy U K) (separable_measurable hU hK)
    (fun u => proposeP vel grad (schedule c i (localStep true u h) n)) ?_ f hf
    (fun u => hmc_invariant U K hU hK hKeven vel grad hv hg hodd c i (localStep true u h) n f hf)
  simp only [C01.randomised_scales_uniformly]
  exact scaledRun_measurable vel grad hv hg id measurable_id _
end randomised

/-! ### boxed targets in any dimension, Unit / Diagonal metric: stationarity **with** reflections

   `trajBox lb ub w g ops` is the model's own trajectory `runOps (diagVel w) g (boxRefl lb ub) ops` (the one the
   correspondence check of C01 / C06 compares with `HMC._propagate_*` and `corrector`), read on `V × V`.
   The target is `exp(−U(q))` strictly inside the box and zero outside; every coordinate may be bounded on both
   sides (positive width), on one side, or not at all (`lb ub : ι → Option ℝ`, `C01.WellFormed`).  Still excluded:
   non-diagonal metrics (the known finding of C01). -/
section boxedN
variable {ι : Type} [Fintype ι]

noncomputable def psiBox (lb ub : ι → Option ℝ) (w : ι → ℝ) (g : Vec ι → Vec ι) (ops : List (Op ℝ)) (x : Phase ι) : Phase ι :=
  flipN (trajBox lb ub w g ops x)

theorem psiBox_measurePreserving (lb ub : ι → Option ℝ) (w : ι → ℝ) (hwf : C01.WellFormed lb ub) (g : Vec ι → Vec ι) (hg : Measurable g)
    (ops : List (Op ℝ)) :
    MeasurePreserving (psiBox lb ub w g ops) (((volume : Measure (Vec ι)).prod volume).restrict (openBox lb ub))
      (((volume : Measure (Vec ι)).prod volume).restrict (openBox lb ub)) :=
  (flipN_mp_box lb ub).comp (trajBox_mp lb ub w hwf g hg ops)

theorem boxed_joint_invariant (lb ub : ι → Option ℝ) (w : ι → ℝ) (hwf : C01.WellFormed lb ub) (U K : Vec ι → ℝ) (hU : Measurable U)
    (hK : Measurable K) (g : Vec ι → Vec ι) (hg : Measurable g) (ops : List (Op ℝ)) (hp : ops.reverse = ops)
    (G : Phase ι → ℝ≥0∞) (hG : Measurable G) :
    ∫⁻ x, gibbs U K x * metropolisOp (psiBox lb ub w g ops) (acceptProb U K (psiBox lb ub w g ops)) G x
        ∂(((volume : Measure (Vec ι)).prod volume).restrict (openBox lb ub))
      = ∫⁻ x, gibbs U K x * G x ∂(((volume : Measure (Vec ι)).prod volume).restrict (openBox lb ub)) :=
  gibbs_invariant _ (energy U K) (separable_measurable hU hK) _ (psiBox_measurePreserving lb ub w hwf g hg ops)
    (psiN_involution_ae lb ub w hwf g hg ops hp) G hG

noncomputable def codeKernelBox (lb ub : ι → Option ℝ) (w : ι → ℝ) (U K : Vec ι → ℝ) (g : Vec ι → Vec ι) (ops : List (Op ℝ))
    (f : Vec ι → ℝ≥0∞) (x : Phase ι) : ℝ≥0∞ :=
  ENNReal.ofReal (min 1 (Real.exp (energy U K x - energy U K (trajBox lb ub w g ops x)))) * f (trajBox lb ub w g ops x).1
    + (1 - ENNReal.ofReal (min 1 (Real.exp (energy U K x - energy U K (trajBox lb ub w g ops x))))) * f x.1

theorem boxed_position_invariant (lb ub : ι → Option ℝ) (w : ι → ℝ) (hwf : C01.WellFormed lb ub) (U K : Vec ι → ℝ) (hU : Measurable U)
    (hK : Measurable K) (hKeven : ∀ p, K (-p) = K p) (g : Vec ι → Vec ι) (hg : Measurable g)
    (ops : List (Op ℝ)) (hp : ops.reverse = ops) (f : Vec ι → ℝ≥0∞) (hf : Measurable f) :
    ∫⁻ x, gibbs U K x * codeKernelBox lb ub w U K g ops f x ∂(((volume : Measure (Vec ι)).prod volume).restrict (openBox lb ub))
      = ∫⁻ x, gibbs U K x * f x.1 ∂(((volume : Measure (Vec ι)).prod volume).restrict (openBox lb ub)) :=
  kernelOf_invariant _ (energy U K) (separable_measurable hU hK) (separable_flip U hKeven) (trajBox lb ub w g ops)
    (psiBox_measurePreserving lb ub w hwf g hg ops) (psiN_involution_ae lb ub w hwf g hg ops hp) f hf

theorem boxed_hmc_invariant (lb ub : ι → Option ℝ) (w : ι → ℝ) (hwf : C01.WellFormed lb ub) (U K : Vec ι → ℝ) (hU : Measurable U)
    (hK : Measurable K) (hKeven : ∀ p, K (-p) = K p) (g : Vec ι → Vec ι) (hg : Measurable g)
    (c : Coeffs ℝ) (i : Integrator) (h : ℝ) (n : Nat) (f : Vec ι → ℝ≥0∞) (hf : Measurable f) :
    ∫⁻ x, gibbs U K x * codeKernelBox lb ub w U K g (schedule c i h n) f x
        ∂(((volume : Measure (Vec ι)).prod volume).restrict (openBox lb ub))
      = ∫⁻ x, gibbs U K x * f x.1 ∂(((volume : Measure (Vec ι)).prod volume).restrict (openBox lb ub)) :=
  boxed_position_invariant lb ub w hwf U K hU hK hKeven g hg _ (C01.schedule_palindrome c i h n) f hf
end boxedN

section boxedRandomised
variable {ι : Type} [Fintype ι]

theorem boxReflProd_measurable (lb ub : ι → Option ℝ) :
    Measurable (fun x : Phase ι => toProd (C01.boxRefl lb ub (ofProd x))) := by
  have hc : ∀ i, Measurable (fun x : Phase ι => correctorR (lb i) (ub i) (x.1 i) (x.2 i)) := fun i =>
    (correctorR_measurable (lb i) (ub i)).comp (f := fun x : Phase ι => (x.1 i, x.2 i))
      (((measurable_pi_apply i).comp measurable_fst).prodMk ((measurable_pi_apply i).comp measurable_snd))
  exact (measurable_pi_iff.mpr fun i => measurable_fst.comp (hc i)).prodMk
    (measurable_pi_iff.mpr fun i => measurable_snd.comp (hc i))

theorem boxed_hmc_randomised_invariant (lb ub : ι → Option ℝ) (w : ι → ℝ) (hwf : C01.WellFormed lb ub)
    (U K : Vec ι → ℝ) (hU : Measurable U) (hK : Measurable K) (hKeven : ∀ p, K (-p) = K p)
    (g : Vec ι → Vec ι) (hg : Measurable g) (c : Coeffs ℝ) (i : Integrator) (h : ℝ) (n : Nat)
    (ν : Measure ℝ) [IsProbabilityMeasure ν] (f : Vec ι → ℝ≥0∞) (hf : Measurable f) :
    ∫⁻ x, gibbs U K x * (∫⁻ u, codeKernelBox lb ub w U K g (schedule c i (localStep true u h) n) f x ∂ν)
        ∂(((volume : Measure (Vec ι)).prod volume).restrict (openBox lb ub))
      = ∫⁻ x, gibbs U K x * f x.1 ∂(((volume : Measure (Vec ι)).prod volume).restrict (openBox lb ub)) := by
  have hvel : Measurable (C01.diagVel w) := measurable_pi_iff.mpr fun i => measurable_const.mul (measurable_pi_apply i)
  refine kernelOf_randomised_invariant _ ν (energy U K) (separable_measurable hU hK)
    (fun u => trajBox lb ub w g (schedule c i (localStep true u h) n)) ?_ f hf
    (fun u => boxed_hmc_invariant lb ub w hwf U K hU hK hKeven g hg c i (localStep true u h) n f hf)
  simp only [C01.randomised_scales_uniformly]
  exact scaledRun_measurable (C01.diagVel w) g hvel hg _ (boxReflProd_measurable lb ub) _
end boxedRandomised

section codeLaw
variable {ι : Type} [Fintype ι]

/-- the law of `rng.uniform(0.5, 1.5)`: Lebesgue measure on `[1/2, 3/2]` -/
noncomputable def stepFactorLaw : Measure ℝ := volume.restrict (Set.Icc (1/2 : ℝ) (3/2))

instance stepFactorLaw_prob : IsProbabilityMeasure stepFactorLaw := by
  constructor
  simp only [stepFactorLaw, Measure.restrict_apply_univ, Real.volume_Icc]
  norm_num

/-- HMC as the code runs it with `randomize_stepsize=True` (unbounded target, any fixed metric) -/
theorem hmc_randomised_invariant_code (U K : Vec ι → ℝ) (hU : Measurable U) (hK : Measurable K) (hKeven : ∀ p, K (-p) = K p)
    (vel grad : Vec ι → Vec ι) (hv : Measurable vel) (hg : Measurable grad) (hodd : ∀ p, vel (-p) = -vel p)
    (c : Coeffs ℝ) (i : Integrator) (h : ℝ) (n : Nat) (f : Vec ι → ℝ≥0∞) (hf : Measurable f) :
    ∫⁻ x, gibbs U K x * (∫⁻ u, codeKernel U K vel grad (schedule c i (localStep true u h) n) f x ∂stepFactorLaw)
        ∂((volume : Measure (Vec ι)).prod volume)
      = ∫⁻ x, gibbs U K x * f x.1 ∂((volume : Measure (Vec ι)).prod volume) :=
  hmc_randomised_invariant U K hU hK hKeven vel grad hv hg hodd c i h n stepFactorLaw f hf

theorem boxed_hmc_randomised_invariant_code (lb ub : ι → Option ℝ) (w : ι → ℝ) (hwf : C01.WellFormed lb ub)
    (U K : Vec ι → ℝ) (hU : Measurable U) (hK : Measurable K) (hKeven : ∀ p, K (-p) = K p)
    (g : Vec ι → Vec ι) (hg : Measurable g) (c : Coeffs ℝ) (i : Integrator) (h : ℝ) (n : Nat)
    (f : Vec ι → ℝ≥0∞) (hf : Measurable f) :
    ∫⁻ x, gibbs U K x * (∫⁻ u, codeKernelBox lb ub w U K g (schedule c i (localStep true u h) n) f x ∂stepFactorLaw)
        ∂(((volume : Measure (Vec ι)).prod volume).restrict (openBox lb ub))
      = ∫⁻ x, gibbs U K x * f x.1 ∂(((volume : Measure (Vec ι)).prod volume).restrict (openBox lb ub)) :=
  boxed_hmc_randomised_invariant lb ub w hwf U K hU hK hKeven g hg c i h n stepFactorLaw f hf
end codeLaw

-- non-vacuity of the boxed theorems: a concrete box, potential, kinetic energy and gradient meet the hypotheses, the
-- strip is not empty, and a box with a two-sided and a one-sided coordinate is well formed with a point strictly inside
example : (0:ℝ) < 1 ∧ Measurable (fun q : ℝ => q ^ 2 / 2) ∧ Measurable (fun p : ℝ => p ^ 2 / 2)
    ∧ (∀ p : ℝ, (fun p : ℝ => p ^ 2 / 2) (-p) = (fun p : ℝ => p ^ 2 / 2) p) ∧ Measurable (fun q : ℝ => q) := by
  exact ⟨zero_lt_one, ((continuous_pow 2).div_const 2).measurable, ((continuous_pow 2).div_const 2).measurable,
    fun p => by simp only [neg_sq], measurable_id⟩
example : ((1/2, 9/4) : ℝ × ℝ) ∈ openStrip 0 1 := by constructor <;> norm_num

example : C01.WellFormed (![some 0, none] : Fin 2 → Option ℝ) ![some 1, some 5] :=
  Fin.forall_fin_two.mpr ⟨fun l u hl hu => by cases hl; cases hu; exact zero_lt_one, fun l u hl _ => nomatch hl⟩
example : ((![1/2, 3], ![9/4, -1]) : Vec (Fin 2) × Vec (Fin 2)) ∈ openBox (![some 0, none] : Fin 2 → Option ℝ) ![some 1, some 5] := by
  have h0 : strictlyInBox1 (some 0) (some 1) (1 / 2) :=
    ⟨fun a ha => by cases ha; norm_num, fun a ha => by cases ha; norm_num⟩
  have h1 : strictlyInBox1 none (some 5) 3 := ⟨nofun, fun a ha => by cases ha; norm_num⟩
  exact Fin.forall_fin_two.mpr ⟨h0, h1⟩

end C04
end HmcVerif
