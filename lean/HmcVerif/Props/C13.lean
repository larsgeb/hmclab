import HmcVerif.Real.DistReal
import HmcVerif.Real.Grad
import HmcVerif.Real.Grad2
import HmcVerif.Real.Fold
import HmcVerif.Real.BoxTreeThm
import HmcVerif.Real.Algebra
import HmcVerif.Props.C05
import Mathlib.Analysis.SpecialFunctions.Log.Base
import Mathlib.LinearAlgebra.Matrix.Determinant.Basic
import Mathlib.Tactic.Ring
/-
  C13 — composite distributions obey their algebra
  (models: Model/DistAlg.lean, Model/Dist.lean; executable counterpart Exec/Dists.lean).
-/
open Finset Matrix
namespace HmcVerif
namespace C13
open DistReal
variable {ι : Type} [Fintype ι]

/-- misfit and gradient are the sums over the parts: if each part's `gradient` is the derivative
    of its `misfit`, the same holds for the sum — any number of parts, any classes -/
theorem additive_gradient_sum {κ : Type} [Fintype κ] (ms : κ → (ι → ℝ) → ℝ) (gs : κ → ι → ℝ) (x : ι → ℝ)
    (h : ∀ k, IsGradAt (ms k) (gs k) x) :
    IsGradAt (fun y => ∑ k, ms k y) (∑ k, gs k) x :=
  IsGradAt.sum univ fun k _ => h k

/-- bounds of a sum = intersection of the parts' bounds: a coordinate violates the collapsed
    bounds iff it violates one operand's bounds -/
theorem collapse_is_intersection (a b c d : Option ℝ) (x : ℝ) :
    Dist.outside1 (Dist.maxLower a b) (Dist.minUpper c d) x
      = (Dist.outside1 a c x || Dist.outside1 b d x) := by
  rw [Bool.eq_iff_iff, Bool.or_eq_true, Dist.outside1_iff_not_inside1, Dist.outside1_iff_not_inside1,
    Dist.outside1_iff_not_inside1, Dist.maxLower_eq_optMax, Dist.minUpper_eq_optMin]
  exact (not_congr (BoxTree.inside1_meet (a, c) (b, d) x)).trans not_and_or

/-- collapsing a whole list of parts (as `add_distribution` does, one at a time) -/
noncomputable def collapseAll (boxes : List (Option ℝ × Option ℝ)) (own : Option ℝ × Option ℝ) : Option ℝ × Option ℝ :=
  boxes.foldl (fun acc b => (Dist.maxLower acc.1 b.1, Dist.minUpper acc.2 b.2)) own

theorem collapseAll_is_intersection (boxes : List (Option ℝ × Option ℝ)) (own : Option ℝ × Option ℝ) (x : ℝ) :
    Dist.outside1 (collapseAll boxes own).1 (collapseAll boxes own).2 x
      = (Dist.outside1 own.1 own.2 x || boxes.any (fun b => Dist.outside1 b.1 b.2 x)) := by
  induction boxes generalizing own with
  | nil => simp [collapseAll]
  | cons b bs ih =>
    simp only [collapseAll, List.foldl_cons, List.any_cons] at ih ⊢
    rw [ih, collapse_is_intersection, Bool.or_assoc]

/-- misfit = sum over consecutive coordinate blocks, gradients stacked: two blocks (`isGradAt_composite`);
    more by nesting `⊕` -/
theorem composite_gradient_stack {ι₁ ι₂ : Type} [Fintype ι₁] [Fintype ι₂]
    (m₁ : (ι₁ → ℝ) → ℝ) (m₂ : (ι₂ → ℝ) → ℝ) (g₁ : ι₁ → ℝ) (g₂ : ι₂ → ℝ) (x : (ι₁ ⊕ ι₂) → ℝ)
    (h₁ : IsGradAt m₁ g₁ (fun i => x (Sum.inl i))) (h₂ : IsGradAt m₂ g₂ (fun i => x (Sum.inr i))) :
    IsGradAt (fun y : (ι₁ ⊕ ι₂) → ℝ => m₁ (fun i => y (Sum.inl i)) + m₂ (fun i => y (Sum.inr i))) (Sum.elim g₁ g₂) x :=
  isGradAt_composite m₁ m₂ g₁ g₂ x h₁ h₂

/-- each block's bounds are reflected on its own coordinates: reflecting the stacked vector with
    the stacked bounds is reflecting every block with its own bounds. A statement about `Sum.elim`
    alone (it holds of any function in place of `correctorR`): the Composite corrector has no
    definition over ℝ; the code's blockwise corrector is compared with `DExpr.correct` (Exec/Dists.lean). -/
theorem composite_reflect_blockwise {ι₁ ι₂ : Type} (lb₁ ub₁ : ι₁ → Option ℝ) (lb₂ ub₂ : ι₂ → Option ℝ)
    (q p : (ι₁ ⊕ ι₂) → ℝ) (i : ι₁ ⊕ ι₂) :
    correctorR (Sum.elim lb₁ lb₂ i) (Sum.elim ub₁ ub₂ i) (q i) (p i)
      = Sum.elim (fun j => correctorR (lb₁ j) (ub₁ j) (q (Sum.inl j)) (p (Sum.inl j)))
                 (fun j => correctorR (lb₂ j) (ub₂ j) (q (Sum.inr j)) (p (Sum.inr j))) i := by
  cases i <;> rfl

/-- the model's Mixture misfit is `−log Σᵢ wᵢ exp(−mᵢ)` -/
theorem mixture_logsumexp (k : Nat) (w m : Fin k → ℝ) (hw : ∀ j, 0 < w j) :
    Dist.mixtureMisfit Real.exp Real.log 0 (List.ofFn w) (List.ofFn m)
      = -Real.log (∑ j, w j * Real.exp (-(m j))) := by
  rw [Dist.mixtureMisfit, Dist.sumList_zipWith_ofFn]
  simp only [sub_eq_add_neg, Real.exp_add, Real.exp_log (hw _)]

/-- terms that tie: a mixture that lists one and the same component `k` times with equal weights is
    that component - however many terms share the maximum of the log-sum-exp -/
theorem mixture_of_copies (k : Nat) (hk : 0 < k) (m : ℝ) :
    Dist.mixtureMisfit Real.exp Real.log 0 (List.ofFn (fun _ : Fin k => (1 : ℝ) / k)) (List.ofFn (fun _ : Fin k => m)) = m := by
  have hk' : (0 : ℝ) < k := Nat.cast_pos.mpr hk
  rw [mixture_logsumexp k (fun _ => (1 : ℝ) / k) (fun _ => m) (fun _ => one_div_pos.mpr hk'),
    Finset.sum_const, Finset.card_fin, nsmul_eq_mul, ← mul_assoc, mul_one_div_cancel hk'.ne',
    one_mul, Real.log_exp, neg_neg]

/-- a symmetric pair on its symmetry plane (equal component misfits, weights ½ and ½) -/
theorem mixture_symmetric_pair (m : ℝ) :
    Dist.mixtureMisfit Real.exp Real.log 0 (List.ofFn ![(1 : ℝ) / 2, 1 / 2]) (List.ofFn ![m, m]) = m := by
  simpa using mixture_of_copies 2 two_pos m

/-- the shifted (log-sum-exp) form the code evaluates is the same number for every shift -/
theorem mixture_shift_invariant (k : Nat) [NeZero k] (w m : Fin k → ℝ) (c : ℝ) :
    Dist.mixtureMisfitShift Real.exp Real.log 0 c (List.ofFn w) (List.ofFn m)
      = Dist.mixtureMisfit Real.exp Real.log 0 (List.ofFn w) (List.ofFn m) := by
  rw [Dist.mixtureMisfitShift, Dist.mixtureMisfit, Dist.sumList_zipWith_ofFn, Dist.sumList_zipWith_ofFn]
  have hpos : 0 < ∑ j, Real.exp (Real.log (w j) - m j) :=
    Finset.sum_pos (fun j _ => Real.exp_pos _) ⟨0, Finset.mem_univ _⟩
  simp only [sub_eq_add_neg _ c, Real.exp_add]
  rw [← Finset.sum_mul, Real.log_mul hpos.ne' (Real.exp_pos _).ne', Real.log_exp, add_neg_cancel_comm_assoc]

/-- the "matching gradient" of `mixture_logsumexp`: `Σ pⱼ gⱼ / Σ pⱼ` with `pⱼ = wⱼ exp(−mⱼ)`
    (`isGradAt_mixture` at `c = log ∘ w`) -/
theorem mixture_gradient (k : Nat) [NeZero k] (w : Fin k → ℝ) (ms : Fin k → (ι → ℝ) → ℝ) (gs : Fin k → ι → ℝ) (x : ι → ℝ)
    (h : ∀ j, IsGradAt (ms j) (gs j) x) :
    IsGradAt (fun y => -Real.log (∑ j, Real.exp (Real.log (w j) - ms j y)))
      (fun i => (∑ j, Real.exp (Real.log (w j) - ms j x) * gs j i) / (∑ j, Real.exp (Real.log (w j) - ms j x))) x :=
  isGradAt_mixture (fun j => Real.log (w j)) ms gs x h

/-- the model's per-coordinate Mixture gradient is that quotient -/
theorem mixtureGrad1_eq (k : Nat) (p g : Fin k → ℝ) :
    Dist.mixtureGrad1 0 (List.ofFn p) (List.ofFn g) = (∑ j, p j * g j) / (∑ j, p j) := by
  rw [Dist.mixtureGrad1, Dist.sumList_zipWith_ofFn, Dist.sumList_ofFn]

/-- the code's shifted responsibilities `exp(aⱼ − c) = pⱼ e^{−c}` (`mixtureRespShift`) give the same
    gradient: only the ratios of the `pⱼ` enter -/
theorem mixture_grad_shift_invariant (k : Nat) (p g : Fin k → ℝ) (c : ℝ) :
    Dist.mixtureGrad1 0 (List.ofFn (fun j => p j * Real.exp (-c))) (List.ofFn g) = Dist.mixtureGrad1 0 (List.ofFn p) (List.ofFn g) := by
  rw [mixtureGrad1_eq, mixtureGrad1_eq]
  simp only [mul_right_comm _ (Real.exp (-c)), ← Finset.sum_mul]
  exact mul_div_mul_right _ _ (Real.exp_pos _).ne'

/-- a misfit `A − Σ log Jᵢ` is the density `exp(−A) · Π Jᵢ` -/
theorem exp_neg_sub_sum_log (A : ℝ) (J : ι → ℝ) (hJ : ∀ i, 0 < J i) :
    Real.exp (-(A - ∑ i, Real.log (J i))) = Real.exp (-A) * ∏ i, J i := by
  rw [neg_sub, sub_eq_add_neg, Real.exp_add, mul_comm, Real.exp_sum]
  simp only [Real.exp_log (hJ _)]

/-- TransformToLogSpace is the exact change of variables `m = base^x`; in density form:
    `exp(−misfit(m)) = p_inner(log_b m) · Πᵢ 1/(mᵢ ln b)` — the inner density times the Jacobian of `m ↦ log_b m` -/
theorem logspace_change_of_variables (inner : (ι → ℝ) → ℝ) (b : ℝ) (hb : 0 < Real.log b) (x : ι → ℝ) (hx : ∀ i, 0 < x i) :
    Real.exp (-(inner (fun i => Dist.logForward Real.log b (x i)) - ∑ i, Real.log (Dist.logJac Real.log b (x i))))
      = Real.exp (-(inner (fun i => Real.log (x i) / Real.log b))) * ∏ i, (1 / x i) / Real.log b := by
  simp only [Dist.logForward, Dist.logJac, lit_one]
  exact exp_neg_sub_sum_log _ _ fun i => div_pos (one_div_pos.mpr (hx i)) hb

/-- the same for every base other than 1 (a base below one has a negative Jacobian): with the
    absolute value of the Jacobian, as the code takes it, the density is the inner density times
    `Πᵢ |1 / (mᵢ ln b)|` -/
theorem logspace_change_of_variables_abs (inner : (ι → ℝ) → ℝ) (b : ℝ) (hb : Real.log b ≠ 0) (x : ι → ℝ) (hx : ∀ i, 0 < x i) :
    Real.exp (-(inner (fun i => Dist.logForward Real.log b (x i)) - ∑ i, Real.log |Dist.logJac Real.log b (x i)|))
      = Real.exp (-(inner (fun i => Real.log (x i) / Real.log b))) * ∏ i, |(1 / x i) / Real.log b| := by
  simp only [Dist.logForward, Dist.logJac, lit_one]
  exact exp_neg_sub_sum_log _ _ fun i => abs_pos.mpr (div_ne_zero (one_div_ne_zero (hx i).ne') hb)

/-- `base^(log_base m) = m`: `transform_backward` inverts `transform_forward` on positive `m`
    (`Dist.logForward Real.log b` is Mathlib's `Real.logb b`, whose lemma needs `0 < b`, `b ≠ 1` only) -/
theorem logspace_roundtrip (b m : ℝ) (hb1 : 1 < b) (hm : 0 < m) :
    b ^ (Dist.logForward Real.log b m) = m :=
  Real.rpow_logb (zero_lt_one.trans hb1) hb1.ne' hm

theorem logGrad1_eq (b m g : ℝ) (hb : Real.log b ≠ 0) (hm : m ≠ 0) :
    Dist.logGrad1 Real.log b m g = g * ((1 / m) / Real.log b) + 1 / m := by
  rw [Dist.logGrad1, Dist.logJac, lit_one, sub_eq_add_neg]
  congr 1
  field_simp

theorem logspace_gradient (inner : (ι → ℝ) → ℝ) (gin : ι → ℝ) (b : ℝ) (hb : Real.log b ≠ 0) (x : ι → ℝ)
    (hx : ∀ i, 0 < x i) (hin : IsGradAt inner gin (fun i => Real.log (x i) / Real.log b)) :
    IsGradAt (fun y => inner (fun i => Dist.logForward Real.log b (y i)) - ∑ i, Real.log (Dist.logJac Real.log b (y i)))
      (fun i => Dist.logGrad1 Real.log b (x i) (gin i)) x := by
  simpa only [Dist.logForward, Dist.logJac, lit_one, logGrad1_eq _ _ _ hb (hx _).ne']
    using isGradAt_logTransform inner gin b hb x hx hin

theorem temperature_divides_stdNormal (T x : ℝ) :
    Dist.stdNormalMisfit T x = Dist.stdNormalMisfit 1 x / T ∧ Dist.stdNormalGrad T x = Dist.stdNormalGrad 1 x / T := by
  simp only [Dist.stdNormalMisfit, Dist.stdNormalGrad, div_one, and_self]

theorem temperature_divides_himmelblau (T x y : ℝ) :
    Dist.himmelblauMisfit T x y = Dist.himmelblauMisfit 1 x y / T ∧
    Dist.himmelblauGradX T x y = Dist.himmelblauGradX 1 x y / T ∧
    Dist.himmelblauGradY T x y = Dist.himmelblauGradY 1 x y / T := by
  simp only [Dist.himmelblauMisfit, Dist.himmelblauGradX, Dist.himmelblauGradY, div_one, and_self]

theorem temperature_divides (m : (ι → ℝ) → ℝ) (g x : ι → ℝ) (T : ℝ) (h : IsGradAt m g x) :
    IsGradAt (fun y => m y / T) (fun i => g i / T) x := h.div_const T

/-- scalar, per-dimension and diagonal-matrix covariances describe the same Normal -/
theorem normal_encodings_agree [DecidableEq ι] (mu invc : ι → ℝ) (c : ℝ) (x : ι → ℝ) :
    normalFullM mu (Matrix.diagonal invc) c x = normalDiagM mu invc c x ∧
    normalFullG mu (Matrix.diagonal invc) x = normalDiagG mu invc x :=
  ⟨C05.normalFullM_diagonal mu invc c x, C05.normalFullG_diagonal mu invc x⟩

/-- a scalar inverse variance `ic` is the vector `(ic, …, ic)`: the misfit is `½·ic·‖μ − x‖² + c`
    (`c` the normalisation constant) -/
theorem normal_scalar_is_constant_vector (mu : ι → ℝ) (ic c : ℝ) (x : ι → ℝ) :
    normalDiagM mu (fun _ => ic) c x = 0.5 * (ic * ∑ i, (mu i - x i) ^ 2) + c := by
  simp only [normalDiagM, Dist.normalDiagTerm, Finset.mul_sum, sq, mul_left_comm (mu _ - x _) ic]

/-- … and the determinant used for the normalisation is the product of the variances -/
theorem normal_det_diagonal [DecidableEq ι] (var : ι → ℝ) : (Matrix.diagonal var).det = ∏ i, var i :=
  Matrix.det_diagonal

/-! ### a worked case of `collapse_is_intersection` -/
example : Dist.outside1 (Dist.maxLower (some (0:ℝ)) (some 1)) (Dist.minUpper (some 3) none) (0.5:ℝ) = true := by
  rw [collapse_is_intersection, Bool.or_eq_true, Dist.outside1_iff, Dist.outside1_iff]
  exact .inr (.inl ⟨1, rfl, by norm_num⟩)

end C13
end HmcVerif
