import HmcVerif.Model.SourceLoc
import HmcVerif.Real.Lit
import HmcVerif.Real.Grad
import Mathlib.Analysis.Calculus.Deriv.Inv
import Mathlib.Analysis.SpecialFunctions.Sqrt
import Mathlib.Tactic.Ring
/-
  C17 — source location: travel times, missing picks, 2D/3D agreement
  (model: Model/SourceLoc.lean with `Finset.sum` as the summations and `Real.sqrt`).
-/
open Finset
namespace HmcVerif
namespace C17
open SourceLoc

variable {nc ne ns : Nat}

/-- the summation parameters over ℝ -/
noncomputable def sumR (n : Nat) (f : Fin n → ℝ) : ℝ := ∑ i, f i

/-- the predicted arrival time is origin time + straight-line distance / velocity -/
theorem forward_eq (src rcv : Fin nc → ℝ) (T v : ℝ) :
    arrival Real.sqrt (sumR nc) src rcv T v = T + Real.sqrt (∑ c, (src c - rcv c) ^ 2) / v := by
  simp only [arrival, SourceLoc.dist, sumR, sq]

/-- the misfit is ½ Σ ((observed − predicted)/σ)² over the observations that are not missing -/
theorem misfit_eq_masked_sum (rcv : Fin ns → Fin nc → ℝ) (obs : Fin ne → Fin ns → Option ℝ) (sigma : Fin ne → Fin ns → ℝ)
    (src : Fin ne → Fin nc → ℝ) (T : Fin ne → ℝ) (v : ℝ) :
    misfit Real.sqrt (sumR nc) (sumR ns) (sumR ne) rcv obs sigma src T v
      = 1 / 2 * ∑ e, ∑ s, (match obs e s with
          | none => 0
          | some o => ((o - arrival Real.sqrt (sumR nc) (src e) (rcv s) (T e) v) / sigma e s) ^ 2) := by
  rw [misfit, lit_half]
  refine congrArg _ (sum_congr rfl fun e _ => sum_congr rfl fun s _ => ?_)
  cases h : obs e s <;> simp only [h, residTerm, lit_zero, sq]

/-- a 3D problem with all y-coordinates zero has the same distances as the 2D problem -/
theorem threeD_y0_eq_twoD (x z rx rz : ℝ) :
    SourceLoc.dist Real.sqrt (sumR 3) ![x, 0, z] ![rx, 0, rz] = SourceLoc.dist Real.sqrt (sumR 2) ![x, z] ![rx, rz] := by
  simp only [SourceLoc.dist, sumR, Fin.sum_univ_three, Fin.sum_univ_two, Matrix.cons_val, sub_self, mul_zero, add_zero]

/-- noise-free data: at the true model every residual and every gradient weight vanishes -/
theorem noise_free_zero (sigma tcalc : ℝ) :
    residTerm (some tcalc) sigma tcalc = 0 ∧ weight (some tcalc) sigma tcalc = 0 := by
  constructor
  · simp only [residTerm, sub_self, zero_div, mul_zero]
  · simp only [weight, sub_self, zero_div]

/-- a missing pick contributes nothing to misfit and gradient -/
theorem missing_contributes_nothing (sigma tcalc : ℝ) :
    residTerm (none : Option ℝ) sigma tcalc = 0 ∧ weight (none : Option ℝ) sigma tcalc = 0 := by
  simp [residTerm, weight, lit_zero]

/-- an event exactly on a station (distance exactly 0): the (undefined) direction term of that pair is
    dropped, every other term is as usual; the code drops it through `0/0 = NaN` and `nansum`, which agrees
    with the model at distance 0 only (a distance that underflows without being 0 gives `±inf` there) -/
theorem coincident_station_term_dropped (num v : ℝ) : dirTerm num v 0 = 0 := by
  simp [dirTerm, lit_zero]

theorem dirTerm_of_pos (num v d : ℝ) (hd : 0 < d) : dirTerm num v d = num / (v * d) := by
  simp [dirTerm, lit_zero, hd]

/-- parameter layout `x, [y,] z, T` per event, then the optional velocity: a flat index determines its event and
    coordinate (`c = nc` is the origin time, so `coordIndex` and `timeIndex` are both covered; `he` and `ne` are
    not used) -/
theorem param_layout (nc ne : Nat) (e e' c c' : Nat) (hc : c ≤ nc) (hc' : c' ≤ nc) (he : e < ne)
    (h : e * (nc + 1) + c = e' * (nc + 1) + c') : e = e' ∧ c = c' := by
  -- both pairs are quotient and remainder of the same index by `nc + 1`
  have div_mod : ∀ a b, b ≤ nc → (a * (nc + 1) + b) / (nc + 1) = a ∧ (a * (nc + 1) + b) % (nc + 1) = b :=
    fun a b hb => (Nat.div_mod_unique (Nat.succ_pos nc)).2 ⟨by rw [Nat.mul_comm, Nat.add_comm], Nat.lt_succ_of_le hb⟩
  have h1 := div_mod e c hc
  rw [h] at h1
  have h2 := div_mod e' c' hc'
  exact ⟨h1.1.symm.trans h2.1, h1.2.symm.trans h2.2⟩

/-- hmclab's layout: coordinate and time indices lie below `velIndex`, and a coordinate index is never a time
    index (`param_layout` at `c' = nc`) -/
theorem layout_indices (nc ne e c : Nat) (hc : c < nc) (he : e < ne) :
    coordIndex nc e c < velIndex nc ne ∧ timeIndex nc e < velIndex nc ne ∧ coordIndex nc e c ≠ timeIndex nc e := by
  unfold coordIndex timeIndex velIndex
  have := Nat.mul_le_mul_right (nc + 1) (Nat.succ_le_of_lt he)
  rw [Nat.succ_mul] at this
  omega

/-- one observation: `½ residTerm` has gradient `weight • ∇arrival` — also for a missing pick -/
private theorem term_isGrad {ι : Type} [Fintype ι] (tau : (ι → ℝ) → ℝ) (gtau : ι → ℝ) (y : ι → ℝ) (h : IsGradAt tau gtau y)
    (obs : Option ℝ) (sigma : ℝ) :
    IsGradAt (fun z => 1 / 2 * residTerm obs sigma (tau z)) (weight obs sigma (tau y) • gtau) y := by
  cases obs with
  | none =>
    exact (IsGradAt.const 0).congr (fun _ => by rw [residTerm, lit_zero, mul_zero])
      (by rw [weight, lit_zero, zero_smul])
  | some o =>
    have r := (h.const_sub o).div_const sigma
    refine (r.mul_self.const_mul (1 / 2)).congr (fun _ => rfl) (funext fun i => ?_)
    simp only [weight, Pi.smul_apply, Pi.neg_apply, smul_eq_mul]
    ring

section grad
variable {ι : Type} [Fintype ι] [DecidableEq ι]

/-- the distance to a station, away from the station: the gradient is the unit vector pointing away from it -/
private theorem dist_isGrad (rcv src : Fin nc → ℝ) (hpos : 0 < ∑ c, (src c - rcv c) * (src c - rcv c)) :
    IsGradAt (fun z => SourceLoc.dist Real.sqrt (sumR nc) z rcv)
      (fun c => (src c - rcv c) / SourceLoc.dist Real.sqrt (sumR nc) src rcv) src := by
  have hsq := IsGradAt.sum univ fun c _ => ((isGradAt_coord c src).sub_const (rcv c)).mul_self
  rw [sum_smul_single] at hsq
  refine (hsq.scomp (Real.hasDerivAt_sqrt hpos.ne')).congr (fun _ => rfl) (funext fun c => ?_)
  simp only [SourceLoc.dist, sumR, Pi.smul_apply, smul_eq_mul]
  ring

/-- arrival time as a function of the parameter vector (`ic c` = index of spatial coordinate `c`, `iT` = index of
    the origin time); the velocity is any function `vel` with a gradient `gvel` (a coordinate when it is inferred,
    a constant when it is fixed) -/
private theorem arrival_isGrad (ic : Fin nc → ι) (iT : ι) (vel : (ι → ℝ) → ℝ) (gvel : ι → ℝ) (rcv : Fin nc → ℝ) (y : ι → ℝ)
    (hvel : IsGradAt vel gvel y) (hv : vel y ≠ 0)
    (hpos : 0 < ∑ c, (y (ic c) - rcv c) * (y (ic c) - rcv c)) :
    IsGradAt (fun z => arrival Real.sqrt (sumR nc) (fun c => z (ic c)) rcv (z iT) (vel z))
      (∑ c, dirTerm (y (ic c) - rcv c) (vel y) (SourceLoc.dist Real.sqrt (sumR nc) (fun c => y (ic c)) rcv) • (Pi.single (ic c) (1:ℝ) : ι → ℝ)
        + (Pi.single iT (1:ℝ) : ι → ℝ)
        + (-(SourceLoc.dist Real.sqrt (sumR nc) (fun c => y (ic c)) rcv) / (vel y * vel y)) • gvel) y := by
  have hd : (0:ℝ) < SourceLoc.dist Real.sqrt (sumR nc) (fun c => y (ic c)) rcv := Real.sqrt_pos.mpr hpos
  -- `T + d / v = v⁻¹ · d + T` by the product rule; then the three groups of the gradient are matched one by one
  refine (((hvel.scomp (hasDerivAt_inv hv)).mul ((dist_isGrad rcv _ hpos).reindex ic)).add (isGradAt_coord iT y)).congr
    (fun z => by rw [arrival, div_eq_inv_mul, add_comm]) ?_
  rw [smul_smul, smul_sum, add_right_comm]
  congr 2
  · exact sum_congr rfl fun c _ => by rw [smul_smul, dirTerm_of_pos _ _ _ hd]; congr 1; ring
  · congr 1; ring

/-- **gradient() is the derivative of misfit()**: every geometry, every number of events and
    stations, scalar or per-datum σ, every pattern of missing picks, fixed or inferred velocity,
    2D and 3D (`nc` = 2, 3) — wherever no event sits exactly on a station and the velocity is
    non-zero. The gradient is assembled as in the code: `gradCoord`, `gradTime` per event, `gradVel`.
    `ic`, `iT` are arbitrary index maps (they need not be injective); hmclab's layout `coordIndex`,
    `timeIndex` is one instance. -/
theorem gradient_is_derivative (ic : Fin ne → Fin nc → ι) (iT : Fin ne → ι) (vel : (ι → ℝ) → ℝ) (gvel : ι → ℝ)
    (rcv : Fin ns → Fin nc → ℝ) (obs : Fin ne → Fin ns → Option ℝ) (sigma : Fin ne → Fin ns → ℝ) (y : ι → ℝ)
    (hvel : IsGradAt vel gvel y) (hv : vel y ≠ 0)
    (hoff : ∀ e s, 0 < ∑ c, (y (ic e c) - rcv s c) * (y (ic e c) - rcv s c)) :
    IsGradAt (fun z => misfit Real.sqrt (sumR nc) (sumR ns) (sumR ne) rcv obs sigma (fun e c => z (ic e c)) (fun e => z (iT e)) (vel z))
      (∑ e, (∑ c, gradCoord Real.sqrt (sumR nc) (sumR ns) rcv obs sigma (fun e c => y (ic e c)) (fun e => y (iT e)) (vel y) e c
                    • (Pi.single (ic e c) (1:ℝ) : ι → ℝ))
          + ∑ e, gradTime Real.sqrt (sumR nc) (sumR ns) rcv obs sigma (fun e c => y (ic e c)) (fun e => y (iT e)) (vel y) e
                    • (Pi.single (iT e) (1:ℝ) : ι → ℝ)
          + gradVel Real.sqrt (sumR nc) (sumR ns) (sumR ne) rcv obs sigma (fun e c => y (ic e c)) (fun e => y (iT e)) (vel y) • gvel) y := by
  -- the sum over (event, station) of the gradients of the single terms ..
  refine (IsGradAt.sum univ fun e _ => IsGradAt.sum univ fun s _ =>
    term_isGrad _ _ y (arrival_isGrad (ic e) (iT e) vel gvel (rcv s) y hvel hv (hoff e s)) (obs e s) (sigma e s)).congr
    (fun z => by simp only [misfit, sumR, lit_half, mul_sum]) ?_
  -- .. regrouped by parameter: distribute, then exchange the sums over stations and coordinates
  simp only [gradCoord, gradTime, gradVel, sumR, smul_add, sum_add_distrib, smul_sum, sum_smul, smul_smul]
  rw [sum_congr rfl fun e _ => sum_comm]

end grad

/-- an array in the stations × events layout is read transposed whenever the two counts differ -/
theorem oriented_transposed {β : Type} (ne ns : Nat) (h : ne ≠ ns) (a : Nat → Nat → β) :
    oriented ne ns ns ne a = some (fun e s => a s e) := by
  have h1 : ¬ (ns = ne ∧ ne = ns) := fun hh => h hh.2
  simp [oriented, orientation, h1]

/-- an array in the events × stations layout is read as given (also when the counts are equal,
    where the layout cannot be told from the shape) -/
theorem oriented_as_given {β : Type} (ne ns : Nat) (a : Nat → Nat → β) : oriented ne ns ne ns a = some a := by
  simp [oriented, orientation]

/-- any other shape is refused -/
theorem oriented_refused {β : Type} (ne ns rows cols : Nat) (a : Nat → Nat → β)
    (h1 : ¬ (rows = ne ∧ cols = ns)) (h2 : ¬ (rows = ns ∧ cols = ne)) : oriented ne ns rows cols a = none := by
  simp [oriented, orientation, h1, h2]

/-! ### non-vacuity: an event at depth is off every surface station -/
example : 0 < ∑ c : Fin 2, ((![3, 2] : Fin 2 → ℝ) c - (![1, 0] : Fin 2 → ℝ) c) * ((![3, 2] : Fin 2 → ℝ) c - (![1, 0] : Fin 2 → ℝ) c) := by
  rw [Fin.sum_univ_two]; norm_num

end C17
end HmcVerif
