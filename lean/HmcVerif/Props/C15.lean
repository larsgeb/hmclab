import HmcVerif.Model.Bounds
import HmcVerif.Model.Linear
import HmcVerif.Real.Lit
import HmcVerif.Real.Grad
import Mathlib.Data.Matrix.Mul
import Mathlib.LinearAlgebra.Matrix.Symmetric
import Mathlib.LinearAlgebra.Matrix.Notation
import Mathlib.Tactic.Ring
/-
  C15 — all LinearMatrix back ends compute the same Gaussian likelihood
  (model: Model/Linear.lean, instantiated at Mathlib matrices: `G : Matrix κ ι ℝ` has one row per
  datum and one column per model parameter, any shape).
-/
open Finset Matrix
namespace HmcVerif
namespace C15
variable {ι κ : Type} [Fintype ι] [Fintype κ]

/-- `½ (Gm − d)ᵀ W (Gm − d)` over ℝ -/
noncomputable def spec (G : Matrix κ ι ℝ) (W : Matrix κ κ ℝ) (d : κ → ℝ) (m : ι → ℝ) : ℝ :=
  Linear.specMisfit (fun v => G *ᵥ v) (fun r => W *ᵥ r) (fun a b => a ⬝ᵥ b) d m

noncomputable def specGrad (G : Matrix κ ι ℝ) (W : Matrix κ κ ℝ) (d : κ → ℝ) (m : ι → ℝ) : ι → ℝ :=
  Linear.specGradient (fun v => G *ᵥ v) (fun r => Gᵀ *ᵥ r) (fun r => W *ᵥ r) d m

theorem spec_eq (G : Matrix κ ι ℝ) (W : Matrix κ κ ℝ) (d : κ → ℝ) (m : ι → ℝ) :
    spec G W d m = 1 / 2 * ((G *ᵥ m - d) ⬝ᵥ (W *ᵥ (G *ᵥ m - d))) := by
  rw [spec, Linear.specMisfit, lit_half]

/-- the premultiplied normal-equation form equals the residual form, for every shape of `G`,
    every data vector, every symmetric inverse covariance (scalar, per-datum or full) -/
theorem premultiplied_eq_residual (G : Matrix κ ι ℝ) (W : Matrix κ κ ℝ) (hW : W.IsSymm) (d : κ → ℝ) (m : ι → ℝ) :
    Linear.premulMisfit (fun v => (Gᵀ * W * G) *ᵥ v) ((Gᵀ * W) *ᵥ d) (d ⬝ᵥ (W *ᵥ d)) (fun a b => a ⬝ᵥ b) m
      = spec G W d m := by
  have hsymm : d ⬝ᵥ (W *ᵥ (G *ᵥ m)) = (G *ᵥ m) ⬝ᵥ (W *ᵥ d) := by
    rw [← dotProduct_transpose_mulVec, hW.eq]
  -- move `Gᵀ` across the dot product, then expand both sides bilinearly in `G m` and `d`
  rw [spec_eq, Linear.premulMisfit, lit_half, lit_two, ← mulVec_mulVec, ← mulVec_mulVec, ← mulVec_mulVec,
    ← mulVec_smul, ← mulVec_sub, dotProduct_transpose_mulVec, dotProduct_comm]
  simp only [mulVec_sub, sub_dotProduct, dotProduct_sub, dotProduct_smul, hsymm, smul_eq_mul]
  ring

theorem premultiplied_gradient (G : Matrix κ ι ℝ) (W : Matrix κ κ ℝ) (d : κ → ℝ) (m : ι → ℝ) :
    Linear.premulGradient (fun v => (Gᵀ * W * G) *ᵥ v) ((Gᵀ * W) *ᵥ d) m = specGrad G W d m := by
  simp only [Linear.premulGradient, specGrad, Linear.specGradient, mulVec_sub, mulVec_mulVec, Matrix.mul_assoc]

/-- the Cholesky form `½‖U r‖²` with `UᵀU = W` equals `½ rᵀ W r` -/
theorem cholesky_form_eq (G : Matrix κ ι ℝ) (W U : Matrix κ κ ℝ) (hU : Uᵀ * U = W) (d : κ → ℝ) (m : ι → ℝ) :
    Linear.factorMisfit (fun v => G *ᵥ v) (fun r => U *ᵥ r) (fun a b => a ⬝ᵥ b) d m = spec G W d m := by
  rw [spec_eq, Linear.factorMisfit, lit_half, ← hU, ← mulVec_mulVec, dotProduct_transpose_mulVec]

/-- scalar or per-datum variances: `½‖r/σ‖²` with `σᵢ² = varᵢ` is the spec with `W = diag(1/var)`
    (`hv` is not used: with `x / 0 = 0` the identity holds at `varᵢ = 0` as well) -/
theorem simple_covariance_form [DecidableEq κ] (G : Matrix κ ι ℝ) (var sig : κ → ℝ) (hs : ∀ i, sig i ^ 2 = var i)
    (hv : ∀ i, var i ≠ 0) (d : κ → ℝ) (m : ι → ℝ) :
    1 / 2 * ∑ i, ((G *ᵥ m - d) i / sig i) ^ 2 = spec G (Matrix.diagonal (fun i => 1 / var i)) d m := by
  rw [spec_eq]
  simp only [dotProduct, mulVec_diagonal]
  exact congrArg _ (sum_congr rfl fun i _ => by rw [div_pow, hs i]; ring)

/-- `gradient` is the derivative of `misfit`: every shape, every symmetric `W`. The misfit is the
    quadratic form of `W` after the affine map `m ↦ G m − d`, whose Jacobian is `G`. -/
theorem gradient_is_derivative [DecidableEq κ] (G : Matrix κ ι ℝ) (W : Matrix κ κ ℝ) (hW : W.IsSymm) (d : κ → ℝ) (m : ι → ℝ) :
    IsGradAt (spec G W d) (specGrad G W d m) m := by
  refine ((isGradAt_quadForm_self W hW (G *ᵥ m - d)).comp (f := fun y => G *ᵥ y - d)
    fun k => (isGradAt_dotProduct (G k) m).sub_const (d k)).congr
    (spec_eq G W d) ?_
  rw [specGrad, Linear.specGradient, mulVec_transpose, vecMul_eq_sum]

set_option linter.unusedSectionVars false in
/-- `forward(m) = G m`: the forward operator is the function parameter `fun v => G *ᵥ v` of the theorems
    above, so this is a β-reduction; it ties no definition of the model to `G`. -/
theorem forward_eq (G : Matrix κ ι ℝ) (m : ι → ℝ) : (fun v => G *ᵥ v) m = G *ᵥ m := rfl

/-! ### "after a pickle round trip": round trips are invisible in every history of the object -/

/-- the box in force after any history of bound updates and pickle/copy round trips is the box the
    bound updates alone produce -/
theorem roundtrips_invisible {V : Type} (clash : V → V → Bool) (b : Option V × Option V) (ops : List (DistOp V)) :
    distRun clash b ops = distRun clash b (ops.filter (fun o => !o.isRoundTrip)) := by
  induction ops generalizing b with
  | nil => rfl
  | cons o rest ih => cases o <;> exact ih _

/-- in particular bounds set before a round trip are in force after it -/
theorem bounds_survive_roundtrip {V : Type} (clash : V → V → Bool) (b : Option V × Option V) (l u : V) (h : clash l u = false) (k : Nat) :
    distRun clash b (DistOp.setBounds (.ok l) (.ok u) :: List.replicate k DistOp.roundTrip) = (some l, some u) := by
  rw [roundtrips_invisible, List.filter_cons_of_pos rfl, List.filter_replicate_of_neg (by simp [DistOp.isRoundTrip])]
  simp [distRun, distStep, updateBounds, h]

/-! ### a worked case: an over-determined 3×2 `G` -/
example : (Matrix.of ![![1, 0], ![0, 1], ![1, 1]] : Matrix (Fin 3) (Fin 2) ℝ) *ᵥ ![1, 2] = ![1, 2, 3] := by
  simp only [cons_mulVec, empty_mulVec, cons_dotProduct_cons, dotProduct_of_isEmpty]; norm_num

end C15
end HmcVerif
