import HmcVerif.Model.Optimizer
import Mathlib.Data.Real.Basic
import Mathlib.Data.List.Chain
import Mathlib.Tactic.NormNum
/-
  C19 — gradient_descent returns a consistent, finite, guarded trajectory.
  All statements hold for every scalar type and every test `bad` (in the code: float64 and
  `isnan(x) or isinf(x)`), every target, every iteration count.
-/
namespace HmcVerif
namespace C19

section
variable {V α : Type} [Sub V] [SMul α V] [LT α] [DecidableLT α]
variable (misfit : V → α) (grad : V → V) (pre : V → V) (bad : α → Bool) (strict : Bool) (eps : α)

/-- `b` follows `a` in the history: its model is `a`'s minus ε × (preconditioned) gradient there, its misfit is not
    NaN/infinite, and under `strictly_monotonic` not larger than `a`'s -/
def Adjacent (a b : V × α) : Prop :=
  b.1 = a.1 - eps • pre (grad a.1) ∧ bad b.2 = false ∧ (strict = true → ¬ a.2 < b.2)

/-- induction over the descent: the run from `cur` stops there (no iteration left, a NaN/infinite
    misfit, or an increase under `strictly_monotonic`), or it moves to an adjacent entry `nxt` that
    carries its own misfit, continues from it and puts `cur` in front of that history -/
theorem gdFrom_induction {P : V × α → GDResult V α → Prop}
    (stop : ∀ cur, P cur { m := cur.1, x := cur.2, hist := [cur] })
    (step : ∀ cur nxt r, Adjacent grad pre bad strict eps cur nxt → nxt.2 = misfit nxt.1 → P nxt r →
      P cur { m := r.m, x := r.x, hist := cur :: r.hist })
    (cur : V × α) (k : Nat) : P cur (gdFrom misfit grad pre bad strict eps cur k) := by
  induction k generalizing cur with
  | zero => exact stop cur
  | succ k ih =>
    rw [gdFrom]
    split
    · exact stop cur
    · split
      · exact stop cur
      · rename_i hb hs
        refine step cur (_, _) _ ⟨rfl, Bool.eq_false_iff.mpr hb, fun hst hlt => hs ?_⟩ rfl (ih _)
        rw [hst, Bool.true_and, decide_eq_true hlt]

theorem returned_is_last (m0 : V) (n : Nat) :
    (gradientDescent misfit grad pre bad strict eps m0 n).hist.getLast? =
      some ((gradientDescent misfit grad pre bad strict eps m0 n).m,
            (gradientDescent misfit grad pre bad strict eps m0 n).x) :=
  gdFrom_induction misfit grad pre bad strict eps (P := fun _ r => r.hist.getLast? = some (r.m, r.x))
    (fun _ => rfl)
    (fun cur _ _ _ _ ih => by rw [List.getLast?_cons, ih]; rfl) _ n

theorem history_misfit_is_own (m0 : V) (n : Nat) :
    ∀ e ∈ (gradientDescent misfit grad pre bad strict eps m0 n).hist, e.2 = misfit e.1 :=
  gdFrom_induction misfit grad pre bad strict eps
    (P := fun cur r => cur.2 = misfit cur.1 → ∀ e ∈ r.hist, e.2 = misfit e.1)
    (fun _ h _ he => List.mem_singleton.mp he ▸ h)
    (fun _ _ _ _ hx ih h => List.forall_mem_cons.mpr ⟨h, ih hx⟩) (m0, misfit m0) n rfl

private theorem chain_from (cur : V × α) (k : Nat) :
    ∃ rest, (gdFrom misfit grad pre bad strict eps cur k).hist = cur :: rest ∧
      List.IsChain (Adjacent grad pre bad strict eps) (cur :: rest) :=
  gdFrom_induction misfit grad pre bad strict eps
    (P := fun cur r => ∃ rest, r.hist = cur :: rest ∧ List.IsChain (Adjacent grad pre bad strict eps) (cur :: rest))
    (fun _ => ⟨[], rfl, .singleton _⟩)
    (fun _ _ r hadj _ ⟨_, h, hc⟩ => ⟨r.hist, rfl, h ▸ .cons_cons hadj hc⟩) cur k

/-- every two consecutive history entries are `Adjacent`: in particular no entry after the first has a
    NaN/infinite misfit, and with `strictly_monotonic` the misfit never increases -/
theorem history_chain (m0 : V) (n : Nat) :
    List.IsChain (Adjacent grad pre bad strict eps) (gradientDescent misfit grad pre bad strict eps m0 n).hist := by
  obtain ⟨_, h, hc⟩ := chain_from misfit grad pre bad strict eps (m0, misfit m0) n
  rw [gradientDescent, h]
  exact hc

theorem history_starts_at_initial (m0 : V) (n : Nat) :
    (gradientDescent misfit grad pre bad strict eps m0 n).hist.head? = some (m0, misfit m0) := by
  obtain ⟨_, h, _⟩ := chain_from misfit grad pre bad strict eps (m0, misfit m0) n
  rw [gradientDescent, h]
  rfl

/-- the guard tests steps only, so the initial misfit may itself be NaN or infinite: hence the first
    disjunct -/
theorem bad_step_never_returned (m0 : V) (n : Nat) :
    (gradientDescent misfit grad pre bad strict eps m0 n).x = misfit m0 ∨
    bad (gradientDescent misfit grad pre bad strict eps m0 n).x = false :=
  gdFrom_induction misfit grad pre bad strict eps (P := fun cur r => r.x = cur.2 ∨ bad r.x = false)
    (fun _ => Or.inl rfl)
    (fun _ _ _ ⟨_, hbad, _⟩ _ ih => Or.inr (ih.elim (fun h => h ▸ hbad) id)) (m0, misfit m0) n

/-- an interrupted run is the shorter run, so everything above holds for it as well; in particular
    the returned model and misfit are the last history entry -/
theorem interrupted_returned_is_last (m0 : V) (n completed : Nat) :
    (gradientDescentInterrupted misfit grad pre bad strict eps m0 n completed).hist.getLast?
      = some ((gradientDescentInterrupted misfit grad pre bad strict eps m0 n completed).m,
              (gradientDescentInterrupted misfit grad pre bad strict eps m0 n completed).x) :=
  returned_is_last misfit grad pre bad strict eps m0 _
end

/-! ### non-vacuity: a two-step descent on `x ↦ x²/2` over ℝ has a three-entry history -/
example : (gradientDescent (fun x : ℝ => x * x / 2) (fun x => x) id (fun _ => false) true (1/2 : ℝ) 1 2).hist.length = 3 := by
  rw [gradientDescent, gdFrom, if_neg Bool.false_ne_true, if_neg, gdFrom, if_neg Bool.false_ne_true, if_neg]
  · rfl
  all_goals norm_num only [Bool.true_and, decide_eq_true_eq, smul_eq_mul, id]

end C19
end HmcVerif
