import HmcVerif.Real.DistReal
import HmcVerif.Real.Algebra
import Mathlib.Probability.Distributions.Gaussian.Real
import Mathlib.MeasureTheory.Integral.Pi
import Mathlib.MeasureTheory.Measure.Lebesgue.Integral
import Mathlib.Analysis.SpecialFunctions.ImproperIntegrals
import Mathlib.Analysis.SpecialFunctions.Log.Base
import Mathlib.LinearAlgebra.Matrix.NonsingularInverse
import Mathlib.Tactic.Ring
/-
  C14 — normalised misfits are true negative log-densities; generate() matches.
-/
open Finset Matrix MeasureTheory ProbabilityTheory Real
namespace HmcVerif
namespace C14
open DistReal
variable {ι : Type} [Fintype ι]

/-- the model's normalisation constant of a Normal with variance product `det` in `d` dimensions -/
noncomputable def normConst (det d : ℝ) : ℝ := Dist.normalNorm Real.log (fun s => |s|) (2 * π) det d

private theorem nnreal_ne_zero {v : ℝ} (hv : 0 < v) : NNReal.mk v hv.le ≠ 0 :=
  fun h => hv.ne' (congrArg NNReal.toReal h)

private theorem exp_neg_of_eq_neg_log {m p : ℝ} (h : m = -Real.log p) (hp : 0 < p) : Real.exp (-m) = p := by
  rw [h, neg_neg, Real.exp_log hp]

theorem neg_log_inv_mul_exp {c : ℝ} (hc : c ≠ 0) (q : ℝ) : -Real.log (c⁻¹ * Real.exp (-q)) = Real.log c + q := by
  rw [Real.log_mul (inv_ne_zero hc) (Real.exp_ne_zero _), Real.log_exp, Real.log_inv, neg_add, neg_neg, neg_neg]

/-- one dimension, every mean and positive variance: the normalised misfit is −log of Mathlib's
    Gaussian density -/
theorem normal1d_misfit_eq_neglog_pdf (μ v x : ℝ) (hv : 0 < v) :
    0.5 * Dist.normalDiagTerm μ (1 / v) x + normConst v 1
      = -Real.log (gaussianPDFReal μ (NNReal.mk v hv.le) x) := by
  have h2pv : 0 < 2 * π * v := mul_pos Real.two_pi_pos hv
  rw [gaussianPDFReal, NNReal.coe_mk, neg_div, neg_log_inv_mul_exp (Real.sqrt_ne_zero'.mpr h2pv), Real.log_sqrt h2pv.le,
    Real.log_mul Real.two_pi_pos.ne' hv.ne']
  simp only [normConst, Dist.normalNorm, Dist.normalDiagTerm, lit_half, abs_of_pos hv]
  ring

theorem normal1d_integral_one (μ v : ℝ) (hv : 0 < v) :
    ∫ x, Real.exp (-(0.5 * Dist.normalDiagTerm μ (1 / v) x + normConst v 1)) = 1 := by
  simp_rw [fun x => exp_neg_of_eq_neg_log (normal1d_misfit_eq_neglog_pdf μ v x hv)
    (gaussianPDFReal_pos μ _ x (nnreal_ne_zero hv))]
  exact integral_gaussianPDFReal_eq_one μ (nnreal_ne_zero hv)

theorem normConst_prod (var : ι → ℝ) (hv : ∀ i, var i ≠ 0) :
    normConst (∏ i, var i) (Fintype.card ι) = ∑ i, normConst (var i) 1 := by
  simp only [normConst, Dist.normalNorm, Real.log_abs, Real.log_prod fun i _ => hv i, ← mul_sum, sum_add_distrib,
    sum_const, card_univ, nsmul_eq_mul, one_mul]

/-- every dimension, per-dimension (or scalar) variances: the misfit with the model's constant
    `½(log|∏ vᵢ| + d·log 2π)` is −log of the product of the one-dimensional Gaussian densities -/
theorem normalDiag_misfit_eq_neglog_pdf (mu var x : ι → ℝ) (hv : ∀ i, 0 < var i) :
    normalDiagM mu (fun i => 1 / var i) (normConst (∏ i, var i) (Fintype.card ι)) x
      = -Real.log (∏ i, gaussianPDFReal (mu i) (NNReal.mk (var i) (hv i).le) (x i)) := by
  rw [Real.log_prod (fun i _ => (gaussianPDFReal_pos _ _ _ (nnreal_ne_zero (hv i))).ne'), ← Finset.sum_neg_distrib,
    normalDiagM, normConst_prod var fun i => (hv i).ne']
  simp only [← normal1d_misfit_eq_neglog_pdf _ _ _ (hv _), sum_add_distrib, ← mul_sum]

theorem normalDiag_integral_one (mu var : ι → ℝ) (hv : ∀ i, 0 < var i) :
    ∫ x : ι → ℝ, Real.exp (-(normalDiagM mu (fun i => 1 / var i) (normConst (∏ i, var i) (Fintype.card ι)) x)) = 1 := by
  simp_rw [fun x => exp_neg_of_eq_neg_log (normalDiag_misfit_eq_neglog_pdf mu var x hv)
    (Finset.prod_pos fun i _ => gaussianPDFReal_pos _ _ (x i) (nnreal_ne_zero (hv i)))]
  rw [integral_fintype_prod_volume_eq_prod (fun i s => gaussianPDFReal (mu i) (NNReal.mk (var i) (hv i).le) s)]
  exact Finset.prod_eq_one fun i _ => integral_gaussianPDFReal_eq_one _ (nnreal_ne_zero (hv i))

/-- the normalised Laplace misfit is −log of the textbook density `∏ (1/(2bᵢ)) exp(−|xᵢ−μᵢ|/bᵢ)` -/
theorem laplace_misfit_eq_neglog_pdf (mu b x : ι → ℝ) (hb : ∀ i, 0 < b i) :
    laplaceM mu (fun i => 1 / b i) (∑ i, Real.log (2 * b i)) x
      = -Real.log (∏ i, (1 / (2 * b i)) * Real.exp (-(|x i - mu i| / b i))) := by
  have h2b : ∀ i, 2 * b i ≠ 0 := fun i => mul_ne_zero two_ne_zero (hb i).ne'
  rw [Real.log_prod fun i _ => mul_ne_zero (one_div_ne_zero (h2b i)) (Real.exp_ne_zero _), ← sum_neg_distrib]
  simp only [div_eq_mul_inv, one_mul, neg_log_inv_mul_exp (h2b _), sum_add_distrib, laplaceM, Dist.laplaceTerm]

/-- `Dist.laplaceNorm` is the constant `Σ log(2bᵢ)` of `laplace_misfit_eq_neglog_pdf` -/
theorem laplaceNorm_eq (k : Nat) (b : Fin k → ℝ) :
    Dist.laplaceNorm Real.log 0 (List.ofFn b) = ∑ i, Real.log (2 * b i) := by
  rw [Dist.laplaceNorm, List.map_ofFn, Dist.sumList_ofFn, lit_two]
  rfl

/-- one dimension and the textbook density only: neither the product over the coordinates
    (as in `normalDiag_integral_one`) nor the step from `laplaceM` is made for Laplace -/
theorem laplace1d_integral_one (μ b : ℝ) (hb : 0 < b) :
    ∫ x, (1 / (2 * b)) * Real.exp (-(|x - μ| / b)) = 1 := by
  have hstd : ∫ y : ℝ, Real.exp (-|y|) = 2 := by
    rw [integral_comp_abs (f := fun x => Real.exp (-x)), integral_exp_neg_Ioi_zero, mul_one]
  have hscale : ∫ x : ℝ, Real.exp (-(|x| / b)) = b * 2 := by
    simpa only [abs_div, abs_of_pos hb, hstd, smul_eq_mul] using
      Measure.integral_comp_div (fun y : ℝ => Real.exp (-|y|)) b
  -- translate by `μ`, then scale by `b`
  rw [integral_const_mul, integral_sub_right_eq_self (fun x => Real.exp (-(|x| / b))) μ, hscale, mul_comm b,
    one_div_mul_cancel (mul_ne_zero two_ne_zero hb.ne')]

/-! ### generate(): the returned columns are the named images of primitive draws -/

/-- Normal, one coordinate: `z·σ + μ` with `z` standard normal is `N(μ, σ²)` (Mathlib pushforward) -/
theorem normal_generate_law (μ σ : ℝ) :
    (gaussianReal 0 1).map (fun z => z * σ + μ) = gaussianReal μ (NNReal.mk (σ ^ 2) (sq_nonneg σ)) := by
  change (gaussianReal 0 1).map ((· + μ) ∘ (· * σ)) = _
  simp only [← Measure.map_map (measurable_add_const μ) (measurable_mul_const σ),
    gaussianReal_map_mul_const, gaussianReal_map_add_const, mul_zero, zero_add, mul_one]

/-- Normal with full covariance: `μ + L z` with `L Lᵀ = Σ` has misfit `½ zᵀz + c`. The identity of
    the quadratic forms only: the Jacobian `|det L|` of the change of variables and the constant are
    not treated. -/
theorem normalFull_generate [DecidableEq ι] (mu : ι → ℝ) (S L : Matrix ι ι ℝ) (hL : L * Lᵀ = S) (hS : IsUnit S.det)
    (c : ℝ) (z : ι → ℝ) :
    normalFullM mu S⁻¹ c (L *ᵥ z + mu) = 0.5 * (z ⬝ᵥ z) + c := by
  simp only [normalFullM, sub_add_cancel_right, Matrix.mulVec_neg, neg_dotProduct_neg,
    quadForm_inv_of_factor S L hL hS z]

/-- Laplace: `μ + b·e` with `e` a standard Laplace draw has misfit `Σ|eᵢ| + c` -/
theorem laplace_generate (mu b e : ι → ℝ) (hb : ∀ i, 0 < b i) (c : ℝ) :
    laplaceM mu (fun i => 1 / b i) c (fun i => mu i + b i * e i) = c + ∑ i, |e i| := by
  simp only [laplaceM, Dist.laplaceTerm, add_sub_cancel_left, abs_mul, abs_of_pos (hb _), mul_one_div,
    mul_div_cancel_left₀ _ (hb _).ne']

/-- Uniform: `lb + (ub − lb)·u` with `u ∈ [0,1)` lies in the box -/
theorem uniform_generate_in_box (l u t : ℝ) (hlu : l < u) (ht0 : 0 ≤ t) (ht1 : t < 1) :
    l ≤ l + (u - l) * t ∧ l + (u - l) * t < u := by
  have hd : 0 < u - l := sub_pos.mpr hlu
  exact ⟨le_add_of_nonneg_right (mul_nonneg hd.le ht0), add_lt_of_lt_sub_left (mul_lt_of_lt_one_right hd ht1)⟩

/-- TransformToLogSpace: `base^x` is mapped back to `x` by `transform_forward` (the density of the
    generated points is the change of variables of C13) -/
theorem logspace_generate (b x : ℝ) (hb : 1 < b) :
    Dist.logForward Real.log b (b ^ x) = x :=
  Real.logb_rpow (zero_lt_one.trans hb) hb.ne'

/-- `Σ log |vᵢ| = log |∏ vᵢ|` for non-zero `vᵢ`: the stable form used by `normalize()` equals the
    textbook constant `½ (log |det| + d log 2π)` in every dimension -/
theorem normalNormSum_eq (vars : List ℝ) (d : ℝ) (h : ∀ v ∈ vars, v ≠ 0) :
    Dist.normalNormSum Real.log (fun s => |s|) 0 (2 * π) vars d = normConst vars.prod d := by
  simp only [Dist.normalNormSum, normConst, Dist.normalNorm, Dist.sumList_eq_sum, Real.log_abs, Real.log_list_prod h]

/-! ### "after normalize()" over every history of the object -/

theorem normStep_of_ne_evaluate {α : Type} (c s : α) {o : Dist.NormOp} (h : o ≠ .evaluate) :
    Dist.normStep c s o = c := by
  cases o with
  | evaluate => exact absurd rfl h
  | _ => rfl

/-- once the object carries the textbook constant it keeps it -/
theorem normRun_self {α : Type} (c : α) (ops : List Dist.NormOp) : Dist.normRun c c ops = c :=
  List.foldlRecOn (motive := (· = c)) ops _ rfl fun s hs o _ => by subst hs; cases o <;> rfl

/-- whatever else happened to the object, once `normalize()` has been called (directly or by a
    `Mixture` constructor) — any number of times — the constant it carries is the textbook one -/
theorem normalize_history {α : Type} (c zero : α) (ops : List Dist.NormOp)
    (h : ∃ o ∈ ops, o ≠ Dist.NormOp.evaluate) : Dist.normRun c zero ops = c := by
  obtain ⟨o, ho, hne⟩ := h
  obtain ⟨l₁, l₂, rfl⟩ := List.append_of_mem ho
  rw [Dist.normRun, List.foldl_append, List.foldl_cons, normStep_of_ne_evaluate c _ hne]
  exact normRun_self c l₂

/-- and an object that was never normalised carries the constructor's 0 -/
theorem never_normalized {α : Type} (c zero : α) (ops : List Dist.NormOp)
    (h : ∀ o ∈ ops, o = Dist.NormOp.evaluate) : Dist.normRun c zero ops = zero :=
  List.foldlRecOn (motive := (· = zero)) ops _ rfl fun s hs o ho => by rw [h o ho]; exact hs

-- `hv` and the hypothesis of `normalize_history` can be met
example : (0:ℝ) < 2.5 := by norm_num
example : Dist.normRun (3:ℝ) 0 [.evaluate, .normalize, .mixtureInit, .normalize, .evaluate] = 3 :=
  normalize_history _ _ _ ⟨.normalize, by simp, by simp⟩

end C14
end HmcVerif
