import HmcVerif.Model.Loop
import HmcVerif.Model.Metropolis
import HmcVerif.Props.C08
import HmcVerif.Props.C02
/-
  C07 — the samples file is the chain: thinned states with their own misfits
  (models: Model/Loop.lean, Model/Store.lean, Model/Metropolis.lean).
-/
namespace HmcVerif
namespace C07
variable {C τ : Type} (clock : Nat → τ) (fast slow : τ → τ → Bool)

/-- proposals whose state is stored: the indices `i < P` with `i % t = 0` -/
def storedIdx (t P : Nat) : List Nat := (List.range P).filter (fun i => i % t = 0)

private theorem stored_proposal (col : Nat → C) (ncalls : Nat → Nat) (t i : Nat) :
    C08.stored col (proposalEvents ncalls t i) = if i % t = 0 then [col i] else [] := by
  rw [proposalEvents, C08.stored_append, C08.stored_append, C08.stored, List.filterMap_replicate_of_none rfl]
  split <;> rfl

private theorem stored_flatMap (col : Nat → C) (ncalls : Nat → Nat) (t : Nat) (l : List Nat) :
    C08.stored col (l.flatMap (proposalEvents ncalls t)) = (l.filter (fun i => i % t = 0)).map col := by
  induction l with
  | nil => rfl
  | cons i is ih =>
    rw [List.flatMap_cons, C08.stored_append, ih, stored_proposal, List.filter_cons]
    by_cases h : i % t = 0
    · rw [if_pos h, if_pos (decide_eq_true h)]; rfl
    · rw [if_neg h, if_neg (mt of_decide_eq_true h)]; rfl

/-- the file of an uninterrupted run holds exactly the states after the proposals `i` with
    `i % t = 0`, in order -/
theorem file_is_thinned_chain (col : Nat → C) (ncalls : Nat → Nat) (t P : Nat) :
    (runFree clock fast slow col ncalls t P).columns = (storedIdx t P).map col ∧
    (runFree clock fast slow col ncalls t P).writeIndex = (storedIdx t P).length := by
  have h := C08.finish_spec clock fast slow col (trace ncalls t P) true
  rw [runFree, h.1, h.2.1, trace, stored_flatMap, List.length_map]
  exact ⟨rfl, rfl⟩

theorem storedIdx_add (t P d : Nat) :
    storedIdx t (P + d) = storedIdx t P ++ ((List.range d).map (P + ·)).filter (fun i => i % t = 0) := by
  rw [storedIdx, List.range_add, List.filter_append, ← storedIdx]

/-- with `t ∣ P` the stored proposals are `0, t, 2t, …, (P/t − 1)·t` -/
theorem storedIdx_multiples (t P : Nat) (ht : 0 < t) (hd : t ∣ P) :
    storedIdx t P = (List.range (P / t)).map (fun j => j * t) := by
  obtain ⟨m, rfl⟩ := hd
  rw [Nat.mul_div_cancel_left m ht]
  induction m with
  | zero => rfl
  | succ k ih =>
    -- among t*k, …, t*k + t − 1 only the first is a multiple of t
    have hblock : ((List.range t).map (t * k + ·)).filter (fun i => i % t = 0) = [t * k] := by
      obtain ⟨u, rfl⟩ := Nat.exists_eq_succ_of_ne_zero ht.ne'
      rw [List.range_succ_eq_map, List.map_cons, List.filter_cons,
        if_pos (decide_eq_true ((Nat.mul_add_mod ..).trans (Nat.zero_mod _))), List.filter_eq_nil_iff.mpr]
      · rfl
      · intro x hx
        obtain ⟨_, hy, rfl⟩ := List.mem_map.mp hx
        obtain ⟨y, hyu, rfl⟩ := List.mem_map.mp hy
        rw [decide_eq_true_eq, Nat.mul_add_mod, Nat.mod_eq_of_lt (Nat.succ_lt_succ (List.mem_range.mp hyu))]
        exact Nat.succ_ne_zero y
    rw [Nat.mul_succ, storedIdx_add, ih, hblock, List.range_succ, List.map_append, List.map_singleton, Nat.mul_comm]

/-- after `P` proposals with thinning `t ∣ P` the file holds exactly `P / t` columns, and column
    `j` is the chain state after proposal `j·t` -/
theorem columns_are_multiples (col : Nat → C) (ncalls : Nat → Nat) (t P : Nat) (ht : 0 < t) (hd : t ∣ P) :
    (runFree clock fast slow col ncalls t P).columns = (List.range (P / t)).map (fun j => col (j * t)) ∧
    (runFree clock fast slow col ncalls t P).columns.length = P / t ∧
    (runFree clock fast slow col ncalls t P).writeIndex = P / t := by
  have h := file_is_thinned_chain clock fast slow col ncalls t P
  rw [storedIdx_multiples t P ht hd] at h
  rw [h.1, h.2, List.map_map, List.length_map, List.length_map, List.length_range]
  exact ⟨rfl, rfl, rfl⟩

/-- a run with thinning `t` equals every `t`-th column of the unthinned run with the same seed
    (same `col`): column `j` of the thinned file is column `j·t` of the unthinned one -/
theorem thinning_is_subsequence (col : Nat → C) (ncalls ncalls' : Nat → Nat) (t P : Nat) (ht : 0 < t) (hd : t ∣ P)
    (j : Nat) (hj : j < P / t) :
    (runFree clock fast slow col ncalls t P).columns[j]?
      = (runFree clock fast slow col ncalls' 1 P).columns[j * t]? := by
  have h1 := (columns_are_multiples clock fast slow col ncalls t P ht hd).1
  have h2 := (columns_are_multiples clock fast slow col ncalls' 1 P Nat.one_pos (Nat.one_dvd P)).1
  have hjt : j * t < P := (Nat.lt_div_iff_mul_lt_of_dvd ht.ne' hd).mp hj
  rw [h1, h2, List.getElem?_map, List.getElem?_map, List.getElem?_range hj, Nat.div_one, List.getElem?_range hjt,
    Option.map_some, Option.map_some, Nat.mul_one]

/-- the stored misfit is the target's misfit at exactly the stored state (RWMH chain; the HMC
    statement is C02.hmc_carried_misfit_is_own) -/
theorem stored_misfit_is_own_rwmh {V α : Type} [Sub α] [LT α] [DecidableLT α] [Add V]
    (exp : α → α) (misfit : V → α) (scale : V → V) (s0 : Chain V α) (h0 : s0.x = misfit s0.model)
    (draws : List (V × α)) (i : Nat) :
    let s := rwmhRun exp misfit scale s0 (draws.take (i + 1))
    s.x = misfit s.model :=
  C02.rwmh_carried_misfit_is_own exp misfit scale s0 h0 _

/-- acceptance rate written at close = accepted / completed proposals -/
theorem close_rate (accepted completed : Nat) (h : 0 < completed) :
    closeAcceptanceRate (fun n => (n : ℚ)) accepted completed = (accepted : ℚ) / completed := by
  simp [closeAcceptanceRate, Nat.pos_iff_ne_zero.mp h]

/-- a run on an object with any past writes the file a fresh object writes when started from the
    same generator state (structural in the model: `_init_sampler` reads nothing but the generator;
    the force of this statement on hmclab comes from the C07.reuse correspondence, which runs both) -/
theorem reuse_eq_fresh {A R L F : Type} (run : A → R → F × R × L) (o : SamplerObj R L) (l' : L) (a : A) :
    (sampleCall run o a).1 = (sampleCall run { rng := o.rng, left := l' } a).1 := rfl

/-- … after any history of earlier calls: the last file of a session is the file of a fresh object
    started from the generator state the earlier calls ended in -/
theorem session_last_file {A R L F : Type} (run : A → R → F × R × L) (o : SamplerObj R L) (hist : List A) (a : A) (l' : L) :
    (session run o (hist ++ [a])).1.getLast? =
      some (sampleCall run { rng := (session run o hist).2.rng, left := l' } a).1 := by
  induction hist generalizing o with
  | nil => rfl
  | cons h rest ih =>
    show ((sampleCall run o h).1 :: (session run (sampleCall run o h).2 (rest ++ [a])).1).getLast? = _
    rw [List.getLast?_cons, ih]
    rfl

/-! ### non-vacuity -/
example : storedIdx 3 12 = [0, 3, 6, 9] := by decide
example : (3 : Nat) ∣ 12 ∧ 0 < 3 := by decide

end C07
end HmcVerif
