import HmcVerif.Model.Bounds
import HmcVerif.Real.Fold
import HmcVerif.Real.BoxTreeThm
import HmcVerif.Props.C02
/-
  C06 — bounded targets: zero probability outside, chains never leave the box
  (models: Model/Bounds.lean, Model/Integrator.lean (`corrector1`), Model/Metropolis.lean).
-/
namespace HmcVerif
namespace C06

/-- the bounded misfit on the IEEE-like scalars: `misfit_bounds(x) + base(x)` -/
noncomputable def bmisfit (outside : Bool) (base : Ext) : Ext :=
  boundedMisfit Ext.pinf (Ext.fin 0) outside base

/-- outside the box the misfit is +inf — or NaN when the unbounded misfit itself is −inf/NaN there;
    in every case it is a value the Metropolis test never accepts -/
theorem misfit_outside (base : Ext) : bmisfit true base = Ext.pinf ∨ bmisfit true base = Ext.nan := by
  cases base with
  | fin x => exact .inl rfl
  | pinf => exact .inl rfl
  | ninf => exact .inr rfl
  | nan => exact .inr rfl

theorem misfit_inf_outside (base : Ext) (h : base ≠ Ext.nan ∧ base ≠ Ext.ninf) :
    bmisfit true base = Ext.pinf := by
  cases base with
  | fin x => rfl
  | pinf => rfl
  | ninf => exact absurd rfl h.2
  | nan => exact absurd rfl h.1

theorem misfit_eq_unbounded_inside (base : Ext) : bmisfit false base = base := by
  cases base with
  | fin x => show Ext.fin (0 + x) = Ext.fin x; rw [zero_add]
  | pinf => rfl
  | ninf => rfl
  | nan => rfl

theorem nan_coordinate_outside (lb ub : Option Ext) (h : lb ≠ none ∨ ub ≠ none) :
    Dist.outside1 lb ub Ext.nan = true := by
  -- IEEE `≤` is false whenever a NaN is involved, so a bound that exists is violated
  have hl : ∀ l : Ext, ¬ l ≤ Ext.nan := by
    rintro l (h | ⟨h1, h2⟩)
    · cases l <;> exact h
    · exact h2 h1
  have hu : ∀ u : Ext, ¬ Ext.nan ≤ u := by
    rintro u (h | ⟨_, h2⟩)
    · exact h
    · exact h2 rfl
  cases lb with
  | some l => simp only [Dist.outside1, hl l, decide_false, Bool.not_false, Bool.true_or]
  | none =>
    cases ub with
    | some u => simp only [Dist.outside1, hu u, decide_false, Bool.not_false, Bool.or_true]
    | none => exact absurd rfl (h.elim id id)

theorem outside1_iff (lb ub : Option ℝ) (x : ℝ) :
    Dist.outside1 lb ub x = true ↔ (∃ l, lb = some l ∧ x < l) ∨ (∃ u, ub = some u ∧ u < x) :=
  Dist.outside1_iff lb ub x

/-- `update_bounds` validates, then commits: it either refuses - the previous bounds stay in force and an error is
    reported - or installs exactly the requested bounds without an error, for every pair of argument classes -/
theorem updateBounds_cases {V : Type} {P : (Option V × Option V) × Option BoundsError → Prop} (clash : V → V → Bool)
    (old : Option V × Option V) (lo up : BoundArg V) (hrefused : ∀ e, P (old, some e))
    (hcommitted : P ((lo.value?, up.value?), none)) : P (updateBounds clash old lo up) := by
  unfold updateBounds
  split
  · exact hrefused _
  · exact hrefused _
  · exact hrefused _
  · exact hrefused _
  · split
    · exact hrefused _
    · exact hcommitted
  · exact hcommitted

theorem updateBounds_atomic {V : Type} (clash : V → V → Bool) (old : Option V × Option V) (lo up : BoundArg V)
    (e : BoundsError) (h : (updateBounds clash old lo up).2 = some e) :
    (updateBounds clash old lo up).1 = old :=
  updateBounds_cases (P := fun r => r.2 = some e → r.1 = old) clash old lo up (fun _ _ => rfl) nofun h

theorem updateBounds_commit {V : Type} (clash : V → V → Bool) (old : Option V × Option V) (lo up : BoundArg V)
    (h : (updateBounds clash old lo up).2 = none) :
    (updateBounds clash old lo up).1 = (lo.value?, up.value?) :=
  updateBounds_cases (P := fun r => r.2 = none → r.1 = (lo.value?, up.value?)) clash old lo up (fun _ => nofun)
    (fun _ => rfl) h

/-- the `reflect_*` theorems are about the whole corrector (`correctorR`), in the cases where one mirror reflection
    brings the coordinate back: the mirror image lies in the box -/
theorem reflect_mirrors_low (l : ℝ) (ub : Option ℝ) (x p : ℝ) (h : x < l)
    (hu : ∀ u, ub = some u → 2 * l - x ≤ u) :
    correctorR (some l) ub x p = (2 * l - x, -p) :=
  correctorR_of_reflect1 (reflect1_low l ub x p h hu) ⟨fun l' hl' => by cases hl'; exact (lt_two_mul_sub h).le, hu⟩

theorem reflect_mirrors_high (lb : Option ℝ) (u : ℝ) (x p : ℝ) (h : u < x) (hl : ∀ l, lb = some l → l ≤ 2 * u - x) :
    correctorR lb (some u) x p = (2 * u - x, -p) :=
  -- a lower bound lies below the mirror image `2 u − x < u < x`, so only the upper bound is violated
  correctorR_of_reflect1 (reflect1_high lb u x p h fun l hl' => (hl l hl').trans ((two_mul_sub_lt h).trans h).le)
    ⟨hl, fun u' hu' => by cases hu'; exact (two_mul_sub_lt h).le⟩

theorem reflect_untouched_inside (lb ub : Option ℝ) (x p : ℝ) (h : inBox1 lb ub x) :
    correctorR lb ub x p = (x, p) :=
  correctorR_of_reflect1 (reflect1_inside lb ub x p h) h

/-- the momentum is only ever negated: kinetic energy of unit/diagonal metrics is conserved -/
theorem reflect_conserves_kinetic1 (lb ub : Option ℝ) (x p w : ℝ) :
    w * (correctorR lb ub x p).2 ^ 2 = w * p ^ 2 := by rw [correctorR_momentum_sq]

theorem corrector_lands_in_box (l u x p : ℝ) (hlu : l < u) :
    l ≤ (correctorR (some l) (some u) x p).1 ∧ (correctorR (some l) (some u) x p).1 ≤ u :=
  correctorR_in_box l u x p hlu

section chain
variable {V : Type} [Add V]

def Good (misfit : V → Ext) (s : Chain V Ext) : Prop :=
  s.x = misfit s.model ∧ s.x ≠ Ext.nan ∧ s.x ≠ Ext.pinf

/-- uniform draws are non-negative reals (that they stay below 1 is never needed) -/
def UniformDraws (draws : List (V × Ext)) : Prop := ∀ d ∈ draws, ∃ u : ℝ, 0 ≤ u ∧ d.2 = Ext.fin u

omit [Add V] in
/-- a Metropolis update keeps a state good, if a proposal whose misfit is NaN or +inf has such an energy too -/
theorem metropolis_good (misfit : V → Ext) (s : Chain V Ext) (h : Good misfit s) (prop : V) (u : ℝ) (hu : 0 ≤ u)
    (eCur eProp : Ext)
    (hE : misfit prop = Ext.nan ∨ misfit prop = Ext.pinf → eProp = Ext.nan ∨ eProp = Ext.pinf) :
    Good misfit (metropolis Ext.exp s prop (misfit prop) (Ext.fin u) eCur eProp) := by
  by_cases hbad : misfit prop = Ext.nan ∨ misfit prop = Ext.pinf
  · rwa [C02.bad_energy_keeps_state s _ _ u hu _ _ (hE hbad)]
  · exact C02.metropolis_cases _ _ _ _ _ _ _ (hacc := ⟨rfl, fun h => hbad (.inl h), fun h => hbad (.inr h)⟩) (hrej := h)

theorem rwmh_chain_good (misfit : V → Ext) (scale : V → V) (s : Chain V Ext) (h : Good misfit s)
    (draws : List (V × Ext)) (hd : UniformDraws draws) :
    Good misfit (rwmhRun Ext.exp misfit scale s draws) := by
  refine List.foldlRecOn draws _ h fun s hs d hmem => ?_
  obtain ⟨u, hu, hdu⟩ := hd d hmem
  rw [hdu]
  exact metropolis_good misfit s hs _ u hu _ _ id

omit [Add V] in
/-- a good state of a target with a bounds term lies inside the bounds: outside, the misfit is +inf or NaN -/
theorem good_inside (outside : V → Bool) (base : V → Ext) (s : Chain V Ext)
    (hg : Good (fun x => bmisfit (outside x) (base x)) s) :
    outside s.model = false ∧ s.x ≠ Ext.nan ∧ s.x ≠ Ext.pinf := by
  refine ⟨?_, hg.2.1, hg.2.2⟩
  by_contra hout
  have hx : s.x = bmisfit true (base s.model) :=
    hg.1.trans (congrArg (bmisfit · (base s.model)) (Bool.eq_true_of_not_eq_false hout))
  rcases misfit_outside (base s.model) with h1 | h1
  · exact hg.2.2 (hx.trans h1)
  · exact hg.2.1 (hx.trans h1)

/-- hence every stored RWMH sample lies inside the bounds — for every box, step size and target:
    `misfit = bounded misfit` and `outside ⇒ +inf/NaN` -/
theorem rwmh_chain_stays_in_box (outside : V → Bool) (base : V → Ext) (scale : V → V) (s : Chain V Ext)
    (h : Good (fun x => bmisfit (outside x) (base x)) s)
    (draws : List (V × Ext)) (hd : UniformDraws draws) :
    let s' := rwmhRun Ext.exp (fun x => bmisfit (outside x) (base x)) scale s draws
    outside s'.model = false ∧ s'.x ≠ Ext.nan ∧ s'.x ≠ Ext.pinf :=
  good_inside outside base _ (rwmh_chain_good _ scale s h draws hd)

omit [Add V] in
/-- **every HMC history** — every integrator (any trajectory map `propose`), every mass matrix
    (any kinetic energy that is not −inf), every step size -/
theorem hmc_chain_good (misfit : V → Ext) (kin : V → Ext) (hk : ∀ p, kin p ≠ Ext.ninf)
    (propose : V × V → V × V) (s : Chain V Ext) (h : Good misfit s)
    (draws : List (V × Ext)) (hd : UniformDraws draws) :
    Good misfit (hmcRun Ext.exp misfit kin propose s draws) := by
  refine List.foldlRecOn draws _ h fun s hs d hmem => ?_
  obtain ⟨u, hu, hdu⟩ := hd d hmem
  rw [hdu]
  -- the current misfit is re-evaluated; a bad proposal misfit makes the total energy bad (`C02.hmc_bad_misfit_bad_energy`)
  exact metropolis_good misfit { s with x := misfit s.model } ⟨rfl, hs.1 ▸ hs.2.1, hs.1 ▸ hs.2.2⟩ _ u hu _ _
    fun hbad => C02.hmc_bad_misfit_bad_energy _ _ hbad (hk _)

theorem hmc_chain_stays_in_box (outside : V → Bool) (base : V → Ext) (kin : V → Ext) (hk : ∀ p, kin p ≠ Ext.ninf)
    (propose : V × V → V × V) (s : Chain V Ext)
    (h : Good (fun x => bmisfit (outside x) (base x)) s)
    (draws : List (V × Ext)) (hd : UniformDraws draws) :
    let s' := hmcRun Ext.exp (fun x => bmisfit (outside x) (base x)) kin propose s draws
    outside s'.model = false ∧ s'.x ≠ Ext.nan ∧ s'.x ≠ Ext.pinf :=
  good_inside outside base _ (hmc_chain_good _ kin hk propose s h draws hd)
end chain

-- non-vacuity of `Good` and `UniformDraws`
example : Good (fun _ : ℝ => Ext.fin 1) ⟨0, Ext.fin 1, 0⟩ := ⟨rfl, by simp, by simp⟩
example : UniformDraws [((0 : ℝ), Ext.fin 0.3)] :=
  List.forall_mem_singleton.mpr ⟨0.3, by norm_num, rfl⟩

end C06
end HmcVerif
