import HmcVerif.Real.DistReal
import HmcVerif.Real.Grad
import HmcVerif.Real.Grad2
import Mathlib.Analysis.Calculus.Deriv.Abs
import Mathlib.Tactic.Ring
import Mathlib.Algebra.BigOperators.Field
/-
  C05 — gradient() is the derivative of misfit() for every distribution.
  `IsGradAt m g x` (Real/Grad.lean) says the Fréchet derivative of `m` at `x` is `v ↦ Σ gᵢ vᵢ`;
  `IsGradAt.partial_deriv` turns it into the coordinate-by-coordinate statement of the property.
  Leaves are proved here; the wrappers (BayesRule, Composite, Mixture, TransformToLogSpace,
  temperature, bounds) are the closure theorems of Real/Grad.lean / Real/Grad2.lean (under the
  property's names in Props/C13.lean), applied once per nesting level; there is no theorem over
  expression trees.
  LinearMatrix and SourceLocation are in Props/C15.lean and Props/C17.lean.
-/
open Finset Matrix
namespace HmcVerif
namespace C05
open DistReal
variable {ι : Type} [Fintype ι]

theorem stdNormal_isGrad (T : ℝ) (x : Fin 1 → ℝ) : IsGradAt (stdNormalM T) (stdNormalG T x) x := by
  have x0 := isGradAt_coord (0 : Fin 1) x
  refine ((x0.mul_self.const_mul (1/2)).div_const T).congr (fun y => ?_) (funext fun i => ?_)
  · rw [stdNormalM, Dist.stdNormalMisfit, lit_half]
  · rw [Subsingleton.elim i 0]
    simp only [stdNormalG, Dist.stdNormalGrad, Pi.smul_apply, Pi.single_eq_same, smul_eq_mul]
    ring

theorem normalFull_isGrad [DecidableEq ι] (mu : ι → ℝ) (A : Matrix ι ι ℝ) (hA : A.IsSymm) (c : ℝ) (x : ι → ℝ) :
    IsGradAt (normalFullM mu A c) (normalFullG mu A x) x :=
  ((isGradAt_quadForm A hA mu x).add_const c).congr (fun y => by rw [normalFullM, lit_half]) rfl

theorem normalFullM_diagonal [DecidableEq ι] (mu invc : ι → ℝ) (c : ℝ) (x : ι → ℝ) :
    normalFullM mu (diagonal invc) c x = normalDiagM mu invc c x := by
  simp only [normalFullM, normalDiagM, Dist.normalDiagTerm, dotProduct, mulVec_diagonal, Pi.sub_apply]

theorem normalFullG_diagonal [DecidableEq ι] (mu invc x : ι → ℝ) :
    normalFullG mu (diagonal invc) x = normalDiagG mu invc x :=
  funext fun i => by
    simp only [normalFullG, normalDiagG, Dist.normalDiagGrad, Pi.neg_apply, mulVec_diagonal, Pi.sub_apply, neg_mul]

/-- the full Normal with `A = diagonal invc` -/
theorem normalDiag_isGrad (mu invc : ι → ℝ) (c : ℝ) (x : ι → ℝ) :
    IsGradAt (normalDiagM mu invc c) (normalDiagG mu invc x) x := by
  classical
  exact (normalFull_isGrad mu (diagonal invc) (isSymm_diagonal invc) c x).congr
    (fun y => (normalFullM_diagonal mu invc c y).symm) (normalFullG_diagonal mu invc x).symm

theorem laplace_isGrad (mu invb : ι → ℝ) (c : ℝ) (x : ι → ℝ) (hx : ∀ i, x i ≠ mu i) :
    IsGradAt (laplaceM mu invb c) (laplaceG mu invb x) x := by
  have hs := isGradAt_separable (fun i s => |s - mu i| * invb i) (fun i => sgn (x i - mu i) * invb i) x fun i =>
    ((hasDerivAt_abs (sub_ne_zero.mpr (hx i))).comp_sub_const (x i) (mu i)).mul_const (invb i)
  exact (hs.add_const c).congr (fun _ => add_comm _ _) rfl

-- `hx` (off the kinks `xᵢ = μᵢ`) can be met
example : ∀ i : Fin 2, (![1, 2] : Fin 2 → ℝ) i ≠ (![0, 0] : Fin 2 → ℝ) i :=
  Fin.forall_fin_two.2 ⟨one_ne_zero, two_ne_zero⟩

/-- Uniform: inside the box the misfit is constant, the gradient zero -/
theorem uniform_isGrad (x : ι → ℝ) : IsGradAt (fun _ : ι → ℝ => (0:ℝ)) 0 x := IsGradAt.const 0

theorem himmelblau_isGrad (T : ℝ) (x : Fin 2 → ℝ) : IsGradAt (himmelblauM T) (himmelblauG T x) x := by
  have x0 := isGradAt_coord (0 : Fin 2) x
  have x1 := isGradAt_coord (1 : Fin 2) x
  have a := (x0.mul_self.add x1).sub_const 11
  have b := (x0.add x1.mul_self).sub_const 7
  refine ((a.mul_self.add b.mul_self).div_const T).congr (fun y => ?_) (funext (Fin.forall_fin_two.2 ⟨?_, ?_⟩))
  · simp only [himmelblauM, Dist.himmelblauMisfit, lit_seven, lit_eleven]
  · simp only [himmelblauG, Dist.himmelblauGradX, lit_two, lit_seven, lit_eleven, cons_val_zero, Pi.add_apply,
      Pi.smul_apply, smul_eq_mul, Pi.single_apply, Fin.reduceEq, ↓reduceIte]
    congr 1
    ring
  · simp only [himmelblauG, Dist.himmelblauGradY, lit_two, lit_seven, lit_eleven, cons_val_one, cons_val_fin_one,
      Pi.add_apply, Pi.smul_apply, smul_eq_mul, Pi.single_apply, Fin.reduceEq, ↓reduceIte]
    congr 1
    ring

/-- the property's coordinate-by-coordinate form `∂misfit/∂xᵢ = gradient(x)ᵢ`, written out for one leaf;
    the others follow from `IsGradAt.partial_deriv` in the same way -/
theorem normalDiag_partial [DecidableEq ι] (mu invc : ι → ℝ) (c : ℝ) (x : ι → ℝ) (i : ι) :
    HasDerivAt (fun t : ℝ => normalDiagM mu invc c (x + t • Pi.single i 1)) (normalDiagG mu invc x i) 0 :=
  (normalDiag_isGrad mu invc c x).partial_deriv i

/-- adding the bounds term does not change the gradient where the bounded misfit coincides with the
    unbounded one on a neighbourhood (`hloc`). That this is so strictly inside the box is taken as
    the hypothesis; it is not derived from `Dist.outside1`. -/
theorem bounded_isGrad (m mb : (ι → ℝ) → ℝ) (g x : ι → ℝ) (h : IsGradAt m g x)
    (hloc : mb =ᶠ[nhds x] m) : IsGradAt mb g x := HasFDerivAt.congr_of_eventuallyEq h hloc

/-! ### AdditiveDistribution / BayesRule as a list that can grow (`add_distribution`) -/

def additiveM (terms : List (((ι → ℝ) → ℝ) × (ι → ℝ))) : (ι → ℝ) → ℝ := fun y => (terms.map (fun t => t.1 y)).sum
def additiveG (terms : List (((ι → ℝ) → ℝ) × (ι → ℝ))) : ι → ℝ := (terms.map (fun t => t.2)).sum

/-- the gradient of an additive distribution is the derivative of its misfit for **every** list of
    terms — however the list was assembled (constructor, then any number of `add_distribution`) -/
theorem additive_isGrad (terms : List (((ι → ℝ) → ℝ) × (ι → ℝ))) (x : ι → ℝ)
    (h : ∀ t ∈ terms, IsGradAt t.1 t.2 x) : IsGradAt (additiveM terms) (additiveG terms) x := by
  induction terms with
  | nil => exact IsGradAt.const 0
  | cons t rest ih =>
    exact (h t List.mem_cons_self).add (ih fun t' ht' => h t' (List.mem_cons_of_mem _ ht'))

/-- `add_distribution`: after appending a term, the gradient must include it -/
theorem additive_after_add (terms : List (((ι → ℝ) → ℝ) × (ι → ℝ))) (t : ((ι → ℝ) → ℝ) × (ι → ℝ)) (x : ι → ℝ)
    (h : ∀ t' ∈ terms, IsGradAt t'.1 t'.2 x) (ht : IsGradAt t.1 t.2 x) :
    IsGradAt (additiveM (terms ++ [t])) (additiveG terms + t.2) x := by
  have e : additiveG (terms ++ [t]) = additiveG terms + t.2 := by
    simp only [additiveG, List.map_append, List.sum_append, List.map_singleton, List.sum_singleton]
  exact e ▸ additive_isGrad _ x (List.forall_mem_append.2 ⟨h, List.forall_mem_singleton.2 ht⟩)

/-! ### LayeredRayTracing2D: the travel-time misfit and its derivative with respect to the synthetic
    travel times (the step to the layer velocities, `∂tt/∂v_l = −L_l / v_l²` at a fixed ray, is not
    proved; C18 has the per-layer path lengths only) -/

/-- `LayeredRayTracing2D._misfit` as a function of the residuals `r = tts_syn − tts_obs` (no NaN):
    `Σ (rᵢ − mean r)² / σ²` — a sum of squares without a factor ½ -/
noncomputable def rayMisfit {n : Nat} (sigma : ℝ) (r : Fin n → ℝ) : ℝ :=
  (∑ i, (r i - (∑ j, r j) / n) ^ 2) / sigma ^ 2

/-- `_dmisfitdsyn`: `2 (rⱼ − mean r) / σ²` -/
noncomputable def rayDMisfit {n : Nat} (sigma : ℝ) (r : Fin n → ℝ) (j : Fin n) : ℝ :=
  2 * (r j - (∑ k, r k) / n) / sigma ^ 2

theorem centered_sum_zero {n : Nat} (hn : n ≠ 0) (r : Fin n → ℝ) : ∑ i, (r i - (∑ j, r j) / n) = 0 := by
  rw [sum_sub_distrib, sum_const, card_fin, nsmul_eq_mul, mul_div_cancel₀ _ (Nat.cast_ne_zero.mpr hn), sub_self]

/-- exact second-order expansion of the travel-time misfit along any perturbation `δ` of the synthetic
    travel times: the first-order coefficient is `Σⱼ _dmisfitdsyn(r)ⱼ δⱼ`. Hence `_dmisfitdsyn` is the
    derivative of `_misfit` (factor 2 included), for every data set and every number of receivers. -/
theorem rayMisfit_expand {n : Nat} (hn : n ≠ 0) (sigma : ℝ) (r δ : Fin n → ℝ) (ε : ℝ) :
    rayMisfit sigma (fun i => r i + ε * δ i) =
      rayMisfit sigma r + ε * (∑ j, rayDMisfit sigma r j * δ j) + ε ^ 2 * rayMisfit sigma δ := by
  unfold rayMisfit rayDMisfit
  generalize hmr : (∑ j, r j) / n = mr
  generalize hmd : (∑ j, δ j) / n = md
  have hmean : (∑ j, (r j + ε * δ j)) / n = mr + ε * md := by
    rw [sum_add_distrib, ← mul_sum, add_div, mul_div_assoc, hmr, hmd]
  have hterm : ∀ i, (r i + ε * δ i - (mr + ε * md)) ^ 2
      = (r i - mr) ^ 2 + ε * (2 * (r i - mr) * δ i) + ε ^ 2 * (δ i - md) ^ 2 - 2 * ε * md * (r i - mr) := fun i => by
    ring
  -- the mean of `δ` drops out of the cross term because the centred residuals sum to zero
  have h0 : ∑ i, (r i - mr) = 0 := hmr ▸ centered_sum_zero hn r
  rw [hmean]
  simp only [hterm, sum_add_distrib, sum_sub_distrib, ← mul_sum, h0, mul_zero, sub_zero, div_mul_eq_mul_div, ← sum_div]
  ring

example : rayMisfit 1 (fun i : Fin 3 => ((i : ℕ) : ℝ) + 2 * 1) = rayMisfit 1 (fun i : Fin 3 => ((i : ℕ) : ℝ))
    + 2 * (∑ j, rayDMisfit 1 (fun i : Fin 3 => ((i : ℕ) : ℝ)) j * 1) + 2 ^ 2 * rayMisfit 1 (fun _ : Fin 3 => (1 : ℝ)) :=
  rayMisfit_expand (by decide) 1 _ _ 2

end C05
end HmcVerif
