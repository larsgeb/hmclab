import HmcVerif.Model.Loop
import HmcVerif.Props.C10
import Mathlib.Tactic.NormNum
/-
  C08 — interruptions, time-outs and user exceptions leave an intact prefix
  (model: Model/Loop.lean; what the `finally` block leaves in the file is `C10.after_close`).
-/
namespace HmcVerif
namespace C08
variable {C τ : Type} (clock : Nat → τ) (fast slow : τ → τ → Bool)

/-- columns taken by a list of events, in order -/
def stored (col : Nat → C) (evs : List Ev) : List C :=
  evs.filterMap fun
    | Ev.appendEntry i => some (col i)
    | _ => none

theorem stored_append (col : Nat → C) (a b : List Ev) :
    stored col (a ++ b) = stored col a ++ stored col b :=
  List.filterMap_append

private theorem storeOps_spec (col : Nat → C) (evs : List Ev) :
    C10.NoClose (storeOps col evs) ∧ C10.appended (storeOps col evs) = stored col evs := by
  induction evs with
  | nil => exact ⟨nofun, rfl⟩
  | cons e es ih =>
    cases e
    case appendEntry i => exact ⟨List.forall_mem_cons.mpr ⟨nofun, ih.1⟩, congrArg (col i :: ·) ih.2⟩
    all_goals exact ih

/-- whatever was executed: after the `finally` block the file is closed, holds exactly the columns
    taken so far, in order, and the write index counts them -/
theorem finish_spec (col : Nat → C) (executed : List Ev) (r : Bool) :
    (finish clock fast slow col executed r).columns = stored col executed ∧
    (finish clock fast slow col executed r).writeIndex = (stored col executed).length ∧
    (finish clock fast slow col executed r).closed = true ∧
    (finish clock fast slow col executed r).returns = r := by
  have h := C10.after_close clock fast slow (storeOps col executed) (storeOps_spec col executed).1
  rw [(storeOps_spec col executed).2] at h
  exact ⟨h.1, h.2.1, h.2.2.2, rfl⟩

/-- a run that executed only a leading part of the events leaves the leading columns -/
theorem finish_prefix (col : Nat → C) {a b : List Ev} (h : a <+: b) (r r' : Bool) :
    (finish clock fast slow col a r).columns
      = (finish clock fast slow col b r').columns.take (finish clock fast slow col a r).columns.length := by
  rw [(finish_spec clock fast slow col a r).1, (finish_spec clock fast slow col b r').1]
  exact List.prefix_iff_eq_take.mp (h.filterMap _)

/-- **every call boundary `k`, every exception kind**: the file holds exactly the leading columns
    of the uninterrupted run -/
theorem fault_prefix (col : Nat → C) (ncalls : Nat → Nat) (t P k : Nat) (kind : FaultKind) :
    (runFault clock fast slow col ncalls t P k kind).columns
      = (runFree clock fast slow col ncalls t P).columns.take
          (runFault clock fast slow col ncalls t P k kind).columns.length :=
  finish_prefix clock fast slow col (List.take_prefix k _) _ true

/-- a KeyboardInterrupt makes `sample()` return normally; any other exception is re-raised -/
theorem interrupt_returns (col : Nat → C) (ncalls : Nat → Nat) (t P k : Nat) :
    (runFault clock fast slow col ncalls t P k FaultKind.interrupt).returns = true := rfl
theorem other_reraises (col : Nat → C) (ncalls : Nat → Nat) (t P k : Nat) :
    (runFault clock fast slow col ncalls t P k FaultKind.other).returns = false := rfl

/-- in every case the file is closed and its write index equals its number of columns -/
theorem closed_and_counted (col : Nat → C) (ncalls : Nat → Nat) (t P k : Nat) (kind : FaultKind) :
    (runFault clock fast slow col ncalls t P k kind).closed = true ∧
    (runFault clock fast slow col ncalls t P k kind).writeIndex
      = (runFault clock fast slow col ncalls t P k kind).columns.length := by
  have h := finish_spec clock fast slow col ((trace ncalls t P).take k) (kind == FaultKind.interrupt)
  exact ⟨h.2.2.1, by rw [runFault, h.2.1, h.1]⟩

/-- every proposal whose append was entered before the stop is in the file -/
theorem completed_included (col : Nat → C) (ncalls : Nat → Nat) (t P k : Nat) (kind : FaultKind) (i : Nat)
    (h : Ev.appendEntry i ∈ (trace ncalls t P).take k) :
    col i ∈ (runFault clock fast slow col ncalls t P k kind).columns := by
  rw [runFault, (finish_spec clock fast slow col _ _).1]
  exact List.mem_filterMap.mpr ⟨_, h, rfl⟩

theorem trace_add (ncalls : Nat → Nat) (t n d : Nat) :
    trace ncalls t (n + d)
      = trace ncalls t n ++ ((List.range d).map (n + ·)).flatMap (proposalEvents ncalls t) := by
  rw [trace, List.range_add, List.flatMap_append, ← trace]

/-- **every time-out instant** (every clock): a run stopped by `max_time` returns normally, its
    file is closed and holds the leading columns of the uninterrupted run -/
theorem timeout_prefix (col : Nat → C) (ncalls : Nat → Nat) (t P : Nat) (over : Nat → Bool) :
    (runTimeout clock fast slow col ncalls t P over).returns = true ∧
    (runTimeout clock fast slow col ncalls t P over).closed = true ∧
    (runTimeout clock fast slow col ncalls t P over).columns
      = (runFree clock fast slow col ncalls t P).columns.take
          (runTimeout clock fast slow col ncalls t P over).columns.length := by
  unfold runTimeout
  cases hto : timeoutAt over P with
  | none => exact ⟨rfl, (finish_spec clock fast slow col _ true).2.2.1, List.take_length.symm⟩
  | some i =>
    have hi : i < P := List.mem_range.mp (List.mem_of_find?_eq_some hto)
    obtain ⟨d, rfl⟩ := Nat.exists_eq_add_of_le hi
    refine ⟨rfl, (finish_spec clock fast slow col _ true).2.2.1, ?_⟩
    exact finish_prefix clock fast slow col ⟨_, (trace_add ncalls t (i + 1) d).symm⟩ true true

/-- a run stopped by the time limit after iteration `i` includes every completed proposal: it is
    the uninterrupted run of `i + 1` proposals -/
theorem timeout_is_shorter_run (col : Nat → C) (ncalls : Nat → Nat) (t P : Nat) (over : Nat → Bool) (i : Nat)
    (h : timeoutAt over P = some i) :
    runTimeout clock fast slow col ncalls t P over = runFree clock fast slow col ncalls t (i + 1) := by
  simp [runTimeout, h, runFree]

/-- the acceptance rate written at close is defined for every stop, including one inside the
    first proposal -/
theorem close_rate_zero_completed (accepted : Nat) :
    closeAcceptanceRate (fun n => (n : ℚ)) accepted 0 = 0 := by
  simp only [closeAcceptanceRate, if_true]
  -- `0.0` is `OfScientific.ofScientific 0 true 1`, which `simp` leaves alone and `norm_num` evaluates
  norm_num

/-! ### the evaluation limiter: after it has interrupted a run, the next run gets a fresh budget -/

/-- `limit = 0` switches the limiter off; otherwise a call raises iff the counter had already passed
    the limit before it -/
theorem limiter_raises_iff (limit gcount c : Nat) (k : LimCall) :
    (limStep limit gcount c k).2 = true ↔ (limit ≠ 0 ∧ limit < c) := by
  unfold limStep
  split
  · exact iff_of_true rfl ‹_›
  · exact iff_of_false Bool.false_ne_true ‹_›

/-- whichever call raises (misfit or gradient), the counter is back at its initial value -/
theorem limiter_raise_resets (limit gcount c : Nat) (k : LimCall) (h : (limStep limit gcount c k).2 = true) :
    (limStep limit gcount c k).1 = 0 := by
  unfold limStep
  rw [if_pos ((limiter_raises_iff limit gcount c k).mp h)]

/-- hence a second sequence of calls on the same object behaves exactly like the first one did:
    the sampler (and the target) can immediately be used for another run -/
theorem limiter_next_run_like_first (limit gcount c : Nat) (k : LimCall) (calls : List LimCall)
    (h : (limStep limit gcount c k).2 = true) :
    limRun limit gcount (limStep limit gcount c k).1 calls = limRun limit gcount 0 calls := by
  rw [limiter_raise_resets limit gcount c k h]

/-! ### non-vacuity: a concrete run (HMC-like: 5 calls per proposal, thinning 2, 4 proposals),
    interrupted at boundary 9, i.e. inside proposal 1 -/
example : (trace (fun _ => 5) 2 4).length = 28 := by decide
example : stored (fun i => i) ((trace (fun _ => 5) 2 4).take 9) = [0] := by decide
example : stored (fun i => i) (trace (fun _ => 5) 2 4) = [0, 2] := by decide

end C08
end HmcVerif
