import HmcVerif.Model.Metropolis
import HmcVerif.Real.Ext
import HmcVerif.Real.Lit
import Mathlib.Tactic.NormNum
import Mathlib.Analysis.SpecialFunctions.Pow.Real
/-
  C16 — step-size autotuning stays positive, diminishing and correctly directed.
-/
namespace HmcVerif
namespace C16

/-- the code's `if s <= 0: s = max(s, minimal_stepsize)` is `minStep` outright because `minStep > 0`;
    `w` is the weight of the proposal, `m` its clamped rate `min(rate, 1)` -/
theorem autotune_formula (w target minStep m step : ℝ) (hmin : 0 < minStep) :
    autotuneCore w target minStep m step
      = if 0 < step + w * (m - target) then step + w * (m - target) else minStep := by
  simp only [autotuneCore, lit_zero, sub_eq_add_neg step, ← mul_neg, neg_sub]
  by_cases h : 0 < step + w * (m - target)
  · rw [if_neg (not_le.mpr h), if_pos h]
  · rw [if_pos (not_lt.mp h), if_neg h, if_pos ((not_lt.mp h).trans_lt hmin)]

theorem autotuneCore_pos (w target minStep m step : ℝ) (hmin : 0 < minStep) :
    0 < autotuneCore w target minStep m step := by
  rw [autotune_formula _ _ _ _ _ hmin]
  split
  · assumption
  · exact hmin

/-- an update that lands exactly on zero is floored like a negative one: zero is not a positive step size -/
theorem update_landing_on_zero_is_floored (w target minStep m step : ℝ) (hmin : 0 < minStep)
    (h0 : step - w * (target - m) = 0) : autotuneCore w target minStep m step = minStep := by
  rw [autotuneCore, h0, lit_zero, if_pos le_rfl, if_pos hmin]

/-- the unclamped change is `weight · (m − target)` -/
theorem change_size (w target minStep m step : ℝ) (hmin : 0 < minStep)
    (h : 0 < step + w * (m - target)) :
    autotuneCore w target minStep m step - step = w * (m - target) := by
  rw [autotune_formula _ _ _ _ _ hmin, if_pos h, add_sub_cancel_left]

/-- **correctly directed**, for every clamped rate `m`: above the target the step grows (whatever its sign: a
    non-positive update is floored at `minStep > 0`), below it shrinks unless it is at the floor already -/
theorem grows_above_target (w target minStep m step : ℝ) (hmin : 0 < minStep) (hw : 0 < w) (hm : target < m) :
    step < autotuneCore w target minStep m step := by
  have : step < step + w * (m - target) := lt_add_of_pos_right _ (mul_pos hw (sub_pos.mpr hm))
  rw [autotune_formula _ _ _ _ _ hmin]
  split
  · exact this
  · next h => exact (this.trans_le (not_lt.mp h)).trans hmin

theorem shrinks_below_target (w target minStep m step : ℝ) (hmin : 0 < minStep) (hw : 0 < w)
    (hm : m < target) (hs : minStep < step) :
    autotuneCore w target minStep m step < step := by
  have : w * (m - target) < 0 := mul_neg_of_pos_of_neg hw (sub_neg.mpr hm)
  rw [autotune_formula _ _ _ _ _ hmin]
  split
  · exact add_lt_of_neg_right _ this
  · exact hs

set_option linter.unusedVariables false in -- `hs`: the step grows whatever its sign
/-- `m = 1`: the clamped rate of an acceptance probability ≥ 1 -/
theorem grows_on_accept (w target minStep step : ℝ) (hmin : 0 < minStep) (hw : 0 < w)
    (ht : target < 1) (hs : 0 < step) :
    step < autotuneCore w target minStep 1 step :=
  grows_above_target w target minStep 1 step hmin hw ht

/-- `m = 0`: the clamped rate of an acceptance probability 0 or NaN -/
theorem shrinks_on_reject (w target minStep step : ℝ) (hmin : 0 < minStep) (hw : 0 < w)
    (ht : 0 < target) (hs : minStep < step) :
    autotuneCore w target minStep 0 step < step :=
  shrinks_below_target w target minStep 0 step hmin hw ht hs

/-- the `step` of `tuneRun` over ℝ as a function of the weight and the clamped rate `(w, m)` of each proposal -/
noncomputable def coreRun (target minStep : ℝ) : ℝ → List (ℝ × ℝ) → ℝ
  | s, [] => s
  | s, (w, m) :: rest => coreRun target minStep (autotuneCore w target minStep m s) rest

/-- the step size is positive (and, being a real number, finite) after every acceptance history -/
theorem stepsize_pos (target minStep step : ℝ) (hmin : 0 < minStep) (h0 : 0 < step)
    (hist : List (ℝ × ℝ)) : 0 < coreRun target minStep step hist := by
  induction hist generalizing step with
  | nil => exact h0
  | cons a rest ih => exact ih _ (autotuneCore_pos _ _ _ _ _ hmin)

/-- `schedule_weight = (current_proposal + 1) ** (-learning_rate)` of `HMC.autotune` / `RWMH.autotune` -/
noncomputable def weight (κ : ℝ) (i : Nat) : ℝ := ((i : ℝ) + 1) ^ (-κ)

theorem weight_pos (κ : ℝ) (i : Nat) : 0 < weight κ i :=
  Real.rpow_pos_of_pos (Nat.cast_add_one_pos i) _

theorem increment_diminishes (κ : ℝ) (hκ : 0 < κ) (i j : Nat) (hij : i ≤ j) :
    weight κ j ≤ weight κ i :=
  Real.rpow_le_rpow_of_nonpos (Nat.cast_add_one_pos i) (add_le_add_left (Nat.cast_le.mpr hij) 1)
    (neg_nonpos.mpr hκ.le)

theorem clampRate_fin (x : ℝ) : clampRate Ext.isNaN (Ext.fin x) = Ext.fin (min x 1) := by
  show (if Ext.fin (1.0 : ℝ) < Ext.fin x then Ext.fin (1.0 : ℝ) else Ext.fin x) = _
  rw [lit_one]
  by_cases h : 1 < x
  · rw [if_pos (show Ext.fin 1 < Ext.fin x from h), min_eq_right h.le]
  · rw [if_neg (show ¬ Ext.fin 1 < Ext.fin x from h), min_eq_left (not_lt.mp h)]

-- `clampRate` replaces NaN by `0.0` first, so the left side unfolds to `clampRate Ext.isNaN (Ext.fin 0.0)`
theorem clampRate_nan : clampRate Ext.isNaN Ext.nan = Ext.fin 0 :=
  (clampRate_fin 0.0).trans (by rw [lit_zero, min_eq_left zero_le_one])

theorem clampRate_pinf : clampRate Ext.isNaN Ext.pinf = Ext.fin 1 := by
  show (if Ext.fin (1.0 : ℝ) < Ext.pinf then Ext.fin (1.0 : ℝ) else Ext.pinf) = _
  rw [if_pos (show Ext.fin (1.0 : ℝ) < Ext.pinf from trivial), lit_one]

/-- every acceptance probability in `[0, ∞] ∪ {NaN}` is clamped to a real number in `[0,1]` -/
theorem clampRate_range (acc : Ext)
    (h : acc = Ext.nan ∨ acc = Ext.pinf ∨ ∃ x, 0 ≤ x ∧ acc = Ext.fin x) :
    ∃ m : ℝ, 0 ≤ m ∧ m ≤ 1 ∧ clampRate Ext.isNaN acc = Ext.fin m := by
  rcases h with rfl | rfl | ⟨x, hx, rfl⟩
  · exact ⟨0, le_refl _, zero_le_one, clampRate_nan⟩
  · exact ⟨1, zero_le_one, le_refl _, clampRate_pinf⟩
  · exact ⟨min x 1, le_min hx zero_le_one, min_le_right _ _, clampRate_fin x⟩

section hist
variable {α : Type} [Sub α] [Mul α] [LT α] [DecidableLT α] [LE α] [DecidableLE α] [OfScientific α]

theorem tuneRun_rates (isNaN : α → Bool) (weight : Nat → α) (target minStep : α)
    (t : Tune α) (i : Nat) (accs : List α) :
    (tuneRun isNaN weight target minStep t i accs).rates = t.rates ++ accs := by
  induction accs generalizing t i with
  | nil => exact (List.append_nil _).symm
  | cons a rest ih => simp only [tuneRun, ih, tuneStep, List.append_assoc]; rfl

/-- the recorded step sizes are the steps in force after each leading part of the run -/
theorem tuneRun_steps (isNaN : α → Bool) (weight : Nat → α) (target minStep : α)
    (t : Tune α) (i : Nat) (accs : List α) :
    (tuneRun isNaN weight target minStep t i accs).steps
      = t.steps ++ (List.range accs.length).map
          fun k => (tuneRun isNaN weight target minStep t i (accs.take k)).step := by
  induction accs generalizing t i with
  | nil => exact (List.append_nil _).symm
  | cons a rest ih =>
    simp only [tuneRun, ih, tuneStep, List.append_assoc, List.length_cons, List.range_succ_eq_map, List.map_cons,
      List.map_map]
    rfl

theorem histories_cover_completed (isNaN : α → Bool) (weight : Nat → α) (target minStep step0 : α)
    (accs : List α) :
    (tuneRun isNaN weight target minStep ⟨step0, [], []⟩ 0 accs).steps.length = accs.length ∧
    (tuneRun isNaN weight target minStep ⟨step0, [], []⟩ 0 accs).rates.length = accs.length := by
  simp only [tuneRun_steps, tuneRun_rates, List.nil_append, List.length_map, List.length_range, and_self]

/-- the step size recorded for proposal `k` is the step in force after the first `k` proposals,
    i.e. the one that generated proposal `k`; the recorded rates are the observed ones -/
theorem recorded_step_generated_proposal (isNaN : α → Bool) (weight : Nat → α) (target minStep step0 : α)
    (pre : List α) (acc : α) (post : List α) :
    let run := tuneRun isNaN weight target minStep ⟨step0, [], []⟩ 0
    (run (pre ++ acc :: post)).steps[pre.length]?
        = some (run pre).step ∧
    (run (pre ++ acc :: post)).rates[pre.length]? = some acc := by
  have hlt : pre.length < (pre ++ acc :: post).length := by
    rw [List.length_append]; exact Nat.lt_add_of_pos_right (Nat.succ_pos _)
  simp only [tuneRun_steps, tuneRun_rates, List.nil_append, List.getElem?_map, List.getElem?_range hlt,
    Option.map_some, List.take_left, List.getElem?_append_right (Nat.le_refl _), Nat.sub_self,
    List.getElem?_cons_zero, and_self]
end hist

theorem learning_rate_ok_iff (lr : ℝ) : learningRateOk lr = true ↔ (1/2 < lr ∧ lr ≤ 1) := by
  rw [learningRateOk, Bool.and_eq_true, decide_eq_true_eq, decide_eq_true_eq, lit_half, lit_one]

/-- a NaN learning rate is refused (IEEE comparisons with NaN are false) -/
theorem learning_rate_nan_refused : learningRateOk Ext.nan = false := by
  rw [learningRateOk, decide_eq_false (fun h => h : ¬ (0.5 : Ext) < Ext.nan)]
  rfl

/-! ### non-vacuity -/
example : 0 < coreRun 0.65 1e-18 0.1 [(1, 0), (0.5, 0), (0.3, 1)] :=
  stepsize_pos _ _ _ (by norm_num) (by norm_num) _
example : learningRateOk (0.75 : ℝ) = true := by
  rw [learning_rate_ok_iff]; norm_num

end C16
end HmcVerif
