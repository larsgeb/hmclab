import HmcVerif.Real.BoxedKernel
/-
  C01 — HMC integrators are reversible, volume-preserving splitting schemes.
-/
open MeasureTheory
namespace HmcVerif
namespace C01

private theorem flatten_replicate_reverse {β : Type} (l : List β) (h : l.reverse = l) (n : Nat) :
    (List.replicate n l).flatten.reverse = (List.replicate n l).flatten := by
  rw [List.reverse_flatten, List.map_replicate, h, List.reverse_replicate]

/-- `a b a b … a` reads the same from both ends -/
private theorem alternating_palindrome {β : Type} (a b : β) (m : Nat) :
    ((List.replicate m [a, b]).flatten ++ [a]).reverse = (List.replicate m [a, b]).flatten ++ [a] := by
  -- reversing turns the blocks `a b` into `b a`, and `a (b a)ᵐ = (a b)ᵐ a`
  have rot := List.append_flatten_map_append (List.replicate m [b]) [a]
  rw [List.map_replicate, List.map_replicate] at rot
  rw [List.reverse_append, List.reverse_flatten, List.map_replicate, List.reverse_replicate]
  exact rot

section palin
variable {α : Type}

theorem stage3_palindrome (a1 a2 b1 b2 : α) :
    (stage3 a1 a2 b1 b2).reverse = stage3 a1 a2 b1 b2 := rfl
theorem stage4_palindrome (a1 a2 a3 b1 b2 : α) :
    (stage4 a1 a2 a3 b1 b2).reverse = stage4 a1 a2 a3 b1 b2 := rfl

theorem lf_schedule_palindrome [Mul α] [OfScientific α] (h : α) (n : Nat) :
    (lfSchedule h n).reverse = lfSchedule h n := by
  -- half a drift on either side of `K D K … D K`
  have e : lfSchedule h n = Op.drift (0.5 * h) :: (((List.replicate (n - 1) [Op.kick h, Op.drift h]).flatten ++ [Op.kick h])
      ++ [Op.drift (0.5 * h)]) := by
    simp only [lfSchedule, List.append_assoc, List.cons_append, List.nil_append]
  rw [e, List.reverse_cons, List.reverse_append, alternating_palindrome]
  rfl
end palin

section palin2
variable {α : Type} [Sub α] [Mul α] [OfScientific α]
theorem s3_schedule_palindrome (a1 b1 h : α) (n : Nat) :
    (s3Schedule a1 b1 h n).reverse = s3Schedule a1 b1 h n := by
  unfold s3Schedule
  exact flatten_replicate_reverse _ (stage3_palindrome _ _ _ _) n
theorem s4_schedule_palindrome (a1 a2 b1 h : α) (n : Nat) :
    (s4Schedule a1 a2 b1 h n).reverse = s4Schedule a1 a2 b1 h n := by
  unfold s4Schedule
  exact flatten_replicate_reverse _ (stage4_palindrome _ _ _ _ _) n

/-- every integrator (the animated leapfrog is the same `lf`), every coefficient set, every
    step size, every step count: the op list with each `drift;corrector` as one op is a palindrome -/
theorem schedule_palindrome (c : Coeffs α) (i : Integrator) (h : α) (n : Nat) :
    (schedule c i h n).reverse = schedule c i h n := by
  cases i
  · exact lf_schedule_palindrome h n
  · exact s3_schedule_palindrome _ _ h n
  · exact s4_schedule_palindrome _ _ _ h n
end palin2

def Op.driftC : Op ℝ → ℝ | .drift c => c | .kick _ => 0
def Op.kickC : Op ℝ → ℝ | .drift _ => 0 | .kick c => c
def driftTime (ops : List (Op ℝ)) : ℝ := (ops.map Op.driftC).sum
def kickTime (ops : List (Op ℝ)) : ℝ := (ops.map Op.kickC).sum

private theorem sum_map_replicate_flatten (f : Op ℝ → ℝ) (l : List (Op ℝ)) (n : Nat) :
    (((List.replicate n l).flatten).map f).sum = n * (l.map f).sum := by
  rw [List.map_flatten, List.map_replicate, List.sum_flatten, List.map_replicate, List.sum_replicate, nsmul_eq_mul]

theorem replicate_times {l : List (Op ℝ)} {t : ℝ} (h : driftTime l = t ∧ kickTime l = t) (n : Nat) :
    driftTime (List.replicate n l).flatten = n * t ∧ kickTime (List.replicate n l).flatten = n * t :=
  ⟨(sum_map_replicate_flatten _ l n).trans (congrArg _ h.1), (sum_map_replicate_flatten _ l n).trans (congrArg _ h.2)⟩

theorem lf_time_sums (h : ℝ) (n : Nat) (hn : 1 ≤ n) :
    driftTime (lfSchedule h n) = n * h ∧ kickTime (lfSchedule h n) = n * h := by
  obtain ⟨m, rfl⟩ := Nat.exists_eq_add_of_le' hn
  simp only [lfSchedule, driftTime, kickTime, Nat.add_sub_cancel, List.map_append, List.sum_append,
    sum_map_replicate_flatten, List.map_cons, List.map_nil, List.sum_cons, List.sum_nil, Op.driftC, Op.kickC, lit_half,
    Nat.cast_add, Nat.cast_one]
  constructor <;> ring

theorem stage3_times (a1 b1 h : ℝ) :
    driftTime (stage3 (a1 * h) ((0.5 - a1) * h) (b1 * h) ((1.0 - 2.0 * b1) * h)) = h ∧
    kickTime (stage3 (a1 * h) ((0.5 - a1) * h) (b1 * h) ((1.0 - 2.0 * b1) * h)) = h := by
  simp only [driftTime, kickTime, stage3, Op.driftC, Op.kickC, List.map_cons, List.map_nil, List.sum_cons, List.sum_nil,
    lit_half, lit_one, lit_two]
  constructor <;> ring

theorem s3_time_sums (a1 b1 h : ℝ) (n : Nat) :
    driftTime (s3Schedule a1 b1 h n) = n * h ∧ kickTime (s3Schedule a1 b1 h n) = n * h :=
  replicate_times (stage3_times a1 b1 h) n

theorem stage4_times (a1 a2 b1 h : ℝ) :
    driftTime (stage4 (a1 * h) (a2 * h) ((1.0 - 2.0 * a1 - 2.0 * a2) * h) (b1 * h) ((0.5 - b1) * h)) = h ∧
    kickTime (stage4 (a1 * h) (a2 * h) ((1.0 - 2.0 * a1 - 2.0 * a2) * h) (b1 * h) ((0.5 - b1) * h)) = h := by
  simp only [driftTime, kickTime, stage4, Op.driftC, Op.kickC, List.map_cons, List.map_nil, List.sum_cons, List.sum_nil,
    lit_half, lit_one, lit_two]
  constructor <;> ring

theorem s4_time_sums (a1 a2 b1 h : ℝ) (n : Nat) :
    driftTime (s4Schedule a1 a2 b1 h n) = n * h ∧ kickTime (s4Schedule a1 a2 b1 h n) = n * h :=
  replicate_times (stage4_times a1 a2 b1 h) n

/-- for every integrator and every coefficient set (`a2`, `a3`, `b2` are *derived* in the model
    exactly as in the code), both time sums equal `stepsize × amount_of_steps` -/
theorem schedule_time_sums (c : Coeffs ℝ) (i : Integrator) (h : ℝ) (n : Nat) (hn : 1 ≤ n) :
    driftTime (schedule c i h n) = n * h ∧ kickTime (schedule c i h n) = n * h := by
  cases i
  · exact lf_time_sums h n hn
  · exact s3_time_sums _ _ h n
  · exact s4_time_sums _ _ _ h n

section rev
variable {V : Type} [AddCommGroup V] [Module ℝ V]

theorem op_reversible (vel grad : V → V) (hodd : ∀ p, vel (-p) = -vel p) :
    Split.StepReversible (stepOp (α := ℝ) vel grad id) flip := by
  intro o s
  cases o with
  | drift c => simp only [stepOp, flip, id, hodd, smul_neg, add_neg_cancel_right]
  | kick c => simp only [stepOp, flip, neg_sub, sub_sub_cancel_left]

/-- integrating the proposal with negated momentum returns the start with negated momentum:
    all integrators, all `n`, all `h`, all coefficient sets, all `(q,p)`, every gradient field,
    every odd velocity map (in particular `p ↦ M⁻¹ p` for every fixed mass matrix). -/
theorem propose_reversible (vel grad : V → V) (hodd : ∀ p, vel (-p) = -vel p)
    (c : Coeffs ℝ) (i : Integrator) (h : ℝ) (n : Nat) (s : PS V) :
    runOps vel grad id (schedule c i h n) (flip (runOps vel grad id (schedule c i h n) s)) = flip s :=
  Split.palindrome_reversible _ _ (op_reversible vel grad hodd) _ (schedule_palindrome c i h n) s

theorem linear_vel_odd (M : V →ₗ[ℝ] V) (p : V) : M (-p) = -M p := M.map_neg p
end rev

def scaleOp (u : ℝ) : Op ℝ → Op ℝ
  | .drift c => .drift (u * c)
  | .kick c => .kick (u * c)

/-- the factor `u` is an *argument* of the scheme (drawn by the caller once per trajectory), never a function of
    the state; randomising the step multiplies every coefficient by it -/
theorem randomised_scales_uniformly (c : Coeffs ℝ) (i : Integrator) (u h : ℝ) (n : Nat) :
    schedule c i (localStep true u h) n = (schedule c i h n).map (scaleOp u) := by
  -- every coefficient of every schedule is a constant times the step size
  cases i <;>
    simp only [schedule, lfSchedule, s3Schedule, s4Schedule, stage3, stage4, localStep, if_true, List.map_append,
      List.map_cons, List.map_nil, scaleOp, List.map_flatten, List.map_replicate, mul_left_comm _ u h]

theorem not_randomised (u h : ℝ) : localStep false u h = h := rfl
theorem randomised_step (u h : ℝ) : localStep true u h = u * h := rfl

section vol
variable {ι : Type} [Fintype ι]
/-- the proposal map preserves Lebesgue measure on phase space `(ι → ℝ) × (ι → ℝ)` — for every
    integrator, `n`, `h`, coefficient set, measurable gradient and measurable velocity map. -/
theorem propose_volume_preserving_all (vel grad : Vec ι → Vec ι) (hv : Measurable vel) (hg : Measurable grad)
    (c : Coeffs ℝ) (i : Integrator) (h : ℝ) (n : Nat) :
    MeasurePreserving (fun x : Vec ι × Vec ι => toProd (runOps vel grad id (schedule c i h n) (ofProd x)))
      ((volume : Measure (Vec ι)).prod volume) ((volume : Measure (Vec ι)).prod volume) :=
  propose_volume_preserving vel grad hv hg _
end vol

section box
variable {ι : Type}

/-- the regime in which the theorem applies: before every drift the state is strictly inside the
    box. Nothing is asked of the drift: it may overshoot the box by any multiple of its width. -/
def Regular (lb ub : ι → Option ℝ) (s : PS (ι → ℝ)) : Op ℝ → Prop
  | .drift _ => ∀ i, strictlyInBox1 (lb i) (ub i) (s.q i)
  | .kick _ => True

theorem boxed_step_reversible (lb ub : ι → Option ℝ) (hwf : WellFormed lb ub) (w : ι → ℝ) (grad : (ι → ℝ) → (ι → ℝ))
    (o : Op ℝ) (s : PS (ι → ℝ)) (hreg : Regular lb ub s o) :
    stepOp (diagVel w) grad (boxRefl lb ub) (flip (stepOp (diagVel w) grad (boxRefl lb ub) s o)) o = flip s :=
  boxed_step_reversible_of lb ub hwf w grad o s <| by
    cases o with
    | drift c => exact fun _ => hreg
    | kick c => exact nofun

/-- **partial**: reversibility with mirror reflection, Unit/Diagonal metric, for every step size and
    every number of bounces, along every trajectory whose drifts start strictly inside the box.
    What is missing for the full statement: states exactly on a bound (a null set) and non-diagonal
    metrics (see below). -/
theorem propose_reversible_boxed_diag_partial (lb ub : ι → Option ℝ) (hwf : WellFormed lb ub) (w : ι → ℝ)
    (grad : (ι → ℝ) → (ι → ℝ)) (c : Coeffs ℝ) (i : Integrator) (h : ℝ) (n : Nat) (s : PS (ι → ℝ))
    (hreg : Split.PathGood (stepOp (diagVel w) grad (boxRefl lb ub)) (Regular lb ub) (schedule c i h n) s) :
    runOps (diagVel w) grad (boxRefl lb ub) (schedule c i h n)
      (flip (runOps (diagVel w) grad (boxRefl lb ub) (schedule c i h n) s)) = flip s :=
  Split.palindrome_reversible_on _ _ (Regular lb ub)
    (fun o s hg => boxed_step_reversible lb ub hwf w grad o s hg) _ (schedule_palindrome c i h n) s hreg

theorem boxRefl_in_box (lb ub : ι → Option ℝ) (hwf : WellFormed lb ub) (s : PS (ι → ℝ)) (i : ι) (l u : ℝ)
    (hl : lb i = some l) (hu : ub i = some u) : l ≤ (boxRefl lb ub s).q i ∧ (boxRefl lb ub s).q i ≤ u := by
  simp only [boxRefl, hl, hu]
  exact correctorR_in_box l u _ _ (hwf i l u hl hu)

theorem reflect_conserves_kinetic [Fintype ι] (lb ub : ι → Option ℝ) (w : ι → ℝ) (s : PS (ι → ℝ)) :
    ∑ i, w i * ((boxRefl lb ub s).p i) ^ 2 = ∑ i, w i * (s.p i) ^ 2 := by
  apply Finset.sum_congr rfl
  intro i _
  simp only [boxRefl, correctorR_momentum_sq]
end box

/-! ### volume preservation **with** reflections (one coordinate; a diagonal metric acts coordinate by coordinate)

   `cdriftMap l u c (q, p) = corrector (q + c p, p)` is the drift sub-step of every integrator on a coordinate with
   the box `[l, u]` (`c` = time × inverse mass).  However long the drift and however many walls it crosses, the map
   is injective on the open strip `l < q < u`, lands in the closed strip, and carries Lebesgue measure to Lebesgue
   measure.  Partial with respect to the property: one coordinate and the drift alone (the product over coordinates
   and the composition with the kicks is `C01.propose_volume_preserving_boxed_diag` below), and
   starts exactly on a wall (a null set) are left out. -/

open MeasureTheory in
theorem boxed_drift_volume_preserving_1d_partial (l u c : ℝ) (hlu : l < u) (A : Set (ℝ × ℝ)) (hA : MeasurableSet A) :
    volume (cdriftMap l u c ⁻¹' A ∩ openStrip l u) = volume (A ∩ cdriftMap l u c '' openStrip l u) :=
  cdrift_volume l u c hlu A hA

open MeasureTheory in
theorem boxed_drift_pushforward_1d_partial (l u c : ℝ) (hlu : l < u) :
    Measure.map (cdriftMap l u c) (volume.restrict (openStrip l u))
      = volume.restrict (cdriftMap l u c '' openStrip l u) :=
  cdrift_map_restrict l u c hlu

theorem boxed_drift_injective_1d (l u c : ℝ) (hlu : l < u) : Set.InjOn (cdriftMap l u c) (openStrip l u) :=
  cdriftMap_injOn l u c hlu

theorem boxed_drift_lands_in_box_1d (l u c : ℝ) (hlu : l < u) :
    cdriftMap l u c '' openStrip l u ⊆ {z | l ≤ z.1 ∧ z.1 ≤ u} := by
  rintro _ ⟨z, _, rfl⟩
  exact correctorR_in_box l u (z.1 + c * z.2) z.2 hlu

end C01

section
variable {ι : Type} [Fintype ι]

/-- **C01, volume preservation with reflections, any dimension, Unit / Diagonal metric, any box**:
    the proposal map of every integrator (every `n`, `h`, coefficient set, measurable gradient) carries
    Lebesgue measure on the open box to itself -/
theorem C01.propose_volume_preserving_boxed_diag (lb ub : ι → Option ℝ) (w : ι → ℝ) (hwf : C01.WellFormed lb ub) (g : Vec ι → Vec ι)
    (hg : Measurable g) (c : Coeffs ℝ) (i : Integrator) (h : ℝ) (n : Nat) :
    MeasurePreserving
      (fun x : Vec ι × Vec ι => toProd (runOps (C01.diagVel w) g
        (C01.boxRefl lb ub) (schedule c i h n) (ofProd x)))
      (((volume : Measure (Vec ι)).prod volume).restrict (openBox lb ub))
      (((volume : Measure (Vec ι)).prod volume).restrict (openBox lb ub)) :=
  trajBox_mp lb ub w hwf g hg (schedule c i h n)

/-- **C01, reversibility with reflections for almost every start**: the set of starts excluded by the
    hypothesis of `propose_reversible_boxed_diag_partial` (some sub-step begins exactly on a wall) is a null
    set of the box - every integrator, `n`, `h`, any dimension, Unit / Diagonal metric, any box -/
theorem C01.propose_reversible_boxed_diag_ae (lb ub : ι → Option ℝ) (w : ι → ℝ) (hwf : C01.WellFormed lb ub)
    (g : Vec ι → Vec ι) (hg : Measurable g) (c : Coeffs ℝ) (i : Integrator) (h : ℝ) (n : Nat) :
    ∀ᵐ x ∂(((volume : Measure (Vec ι)).prod volume).restrict (openBox lb ub)),
      runOps (C01.diagVel w) g (C01.boxRefl lb ub) (schedule c i h n)
        (C01.flip (runOps (C01.diagVel w) g (C01.boxRefl lb ub) (schedule c i h n) (ofProd x))) = C01.flip (ofProd x) := by
  filter_upwards [trajBox_reversible_ae lb ub w hwf g hg _ (C01.schedule_palindrome c i h n)] with x hx
  exact congrArg ofProd hx
end

namespace C01

/-- `M⁻¹ = [[1, 1/2], [1/2, 1]]`, upper bound 1 on coordinate 0, one drift of length 1 from
    `q = (9/10, 0)`, `p = (1, 0)` -/
noncomputable def fullVel (p : Fin 2 → ℝ) : Fin 2 → ℝ := ![p 0 + p 1 / 2, p 0 / 2 + p 1]
def witnessUb : Fin 2 → Option ℝ := ![some 1, none]
def witnessLb : Fin 2 → Option ℝ := ![none, none]
noncomputable def witnessS : PS (Fin 2 → ℝ) := ⟨![9/10, 0], ![1, 0]⟩

/-- the full cross product of the property's quantifier fails: a non-diagonal metric with mirror reflection is
    **not** reversible (a negative theorem; the witness is replayed on hmclab by the harness and recorded in
    known_findings.json) -/
theorem full_mass_box_not_reversible :
    stepOp fullVel (fun _ => 0) (boxRefl witnessLb witnessUb)
      (flip (stepOp fullVel (fun _ => 0) (boxRefl witnessLb witnessUb) witnessS (Op.drift 1))) (Op.drift 1)
      ≠ flip witnessS := by
  intro h
  -- coordinate 1 has no bounds; coordinate 0 is reflected once, at its upper bound, on the way out: that negates `p 0`
  -- only, and through the off-diagonal entry of the metric coordinate 1 comes back to 1 instead of 0
  have h1 := congrFun (congrArg PS.q h) 1
  have en : ∀ y p : ℝ, correctorR none none y p = (y, p) := fun _ _ => rfl
  have e0 : ∀ y p : ℝ, 1 < y → (correctorR none (some 1) y p).2 = -p := fun y p hy =>
    congrArg Prod.snd (reflect1_high none 1 y p hy nofun)
  simp only [stepOp, flip, boxRefl, witnessS, witnessLb, witnessUb, fullVel, Matrix.cons_val_zero, Matrix.cons_val_one,
    Pi.add_apply, Pi.neg_apply, en, one_nsmul] at h1
  rw [e0 _ _ (by norm_num1)] at h1
  norm_num1 at h1

-- non-vacuity: `[0, 1]` is a well-formed box with `1/2` strictly inside; the drift `3 · 9/4` from there hits seven walls
-- (`reflect1` mirrors it at the first, `refold` folds the other six) and is reversed like any other; `(1/2, 9/4)` is a
-- point of the open strip; `x ↦ 2 x` is an odd velocity map
example : strictlyInBox1 (some 0) (some 1) (1/2 : ℝ) ∧ ((0:ℝ) < 1) := by
  refine ⟨⟨?_, ?_⟩, zero_lt_one⟩
  · intro l hl; cases hl; norm_num
  · intro u hu; cases hu; norm_num
example : cdrift1 (some 0) (some 1) 3 (cdrift1 (some 0) (some 1) 3 (1/2) (9/4)).1 (-(cdrift1 (some 0) (some 1) 3 (1/2) (9/4)).2) = (1/2, -(9/4)) :=
  cdrift1_reversible_box 0 1 3 (1/2) (9/4) (by norm_num) (by norm_num) (by norm_num)
example : ((1/2, 9/4) : ℝ × ℝ) ∈ openStrip 0 1 := by constructor <;> norm_num
example : ∀ p : ℝ, (fun x => (2:ℝ) * x) (-p) = -((fun x => (2:ℝ) * x) p) := mul_neg 2

end C01
end HmcVerif
