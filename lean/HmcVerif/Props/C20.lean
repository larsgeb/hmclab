import HmcVerif.Model.Tempering
import HmcVerif.Model.Controller
import HmcVerif.Real.AsyncThm
import HmcVerif.Props.C12
/-
  C20 — parallel chains without exchange are exactly the sequential chains.
  With exchange disabled (`I = 0`) the choreography contains no communication at all; every
  interleaving of the processes therefore yields, for every chain, the stand-alone run of that chain.
-/
-- for `solo_columns` alone, whose statement carries the section's instance arguments without using them
set_option linter.unusedSectionVars false
namespace HmcVerif
namespace C20
open Async Tempering

variable {V α : Type} [Sub α] [Add α] [LT α] [DecidableLT α] [DecidableEq V]

/-- `ParallelSampleSMP.sample`: an `initial_model` / `kwargs` that is not a list goes to every chain -/
theorem routing_shared {I K : Type} (dI : I) (dK : K) (merge : K → K → K) (a : I) (kw : K) (fixed : K) (i : Nat) :
    chainArgs dI dK merge (.shared a) (.shared kw) fixed i = (a, merge kw fixed) := rfl

/-- … and a list is indexed by the chain number -/
theorem routing_each {I K : Type} (dI : I) (dK : K) (merge : K → K → K) (as : List I) (kws : List K) (fixed : K) (i : Nat)
    (hi : i < as.length) (hk : i < kws.length) :
    chainArgs dI dK merge (.each as) (.each kws) fixed i = (as[i], merge kws[i] fixed) := by
  simp [chainArgs, PerChain.pick, List.getD, hi, hk]

theorem kwLookup_merge {β : Type} (a b : Kw β) (k : String) :
    kwLookup (kwMerge a b) k = (kwLookup b k).or (kwLookup a k) := by
  unfold kwLookup kwMerge
  rw [List.find?_append]
  cases h : b.find? (fun e => e.1 == k) <;> simp

/-- the keys the controller fixes (`proposals`, `overwrite_existing_file`, `queue`) carry the controller's
    values whatever the user's kwargs say -/
theorem fixed_keys_win {β : Type} (init : β) (kwargs fixed : Kw β) (k : String) (v : β) (h : kwLookup fixed k = some v) :
    kwLookup (totalKwargs init kwargs fixed) k = some v := by
  rw [totalKwargs, kwLookup_merge, h]
  rfl

/-- every other key comes from the chain's own kwargs; `initial_model` from the kwargs if given there,
    else from the initial model routed to this chain -/
theorem other_keys_from_chain {β : Type} (init : β) (kwargs fixed : Kw β) (k : String) (h : kwLookup fixed k = none) :
    kwLookup (totalKwargs init kwargs fixed) k = (kwLookup kwargs k).or (if k = "initial_model" then some init else none) := by
  rw [totalKwargs, kwLookup_merge, h, Option.none_or, kwLookup_merge]
  refine congrArg _ ?_
  simp only [kwLookup, List.find?_singleton, beq_iff_eq, @eq_comm _ "initial_model"]
  split <;> rfl

private theorem proposal_solo (exp : α → α) (misfit : Nat → V → α) (kern : Nat → Nat → V × α → V × α) (udraw : Nat → Nat → α)
    (n : Nat) (sched : Nat → List Nat) (k : Nat) (st : Nat → ChainSt V α) (i : Nat) (hi : i < n) :
    seqRun (proposalScript exp misfit kern udraw n 0 sched k) st i = soloStep (kern i) (st i) k := by
  have hmem : i ∈ List.range n := List.mem_range.mpr hi
  rw [proposalScript, if_neg fun h => h.1 rfl, List.append_nil, seqRun_append, seqRun_locs _ List.nodup_range, if_pos hmem,
    seqRun_locs _ List.nodup_range, if_pos hmem]
  rfl

theorem soloRun_succ {V α : Type} (kern : Nat → V × α → V × α) (P : Nat) (st : ChainSt V α) :
    soloRun kern (P + 1) st = soloStep kern (soloRun kern P st) P := by
  simp only [soloRun, List.range_succ, List.foldl_append, List.foldl_cons, List.foldl_nil]

theorem no_exchange_is_solo (exp : α → α) (misfit : Nat → V → α) (kern : Nat → Nat → V × α → V × α) (udraw : Nat → Nat → α)
    (n P : Nat) (sched : Nat → List Nat) (st : Nat → ChainSt V α) (i : Nat) (hi : i < n) :
    seqRun (script exp misfit kern udraw n P 0 sched) st i = soloRun (kern i) P (st i) := by
  induction P with
  | zero => rfl
  | succ P ih => rw [C12.script_succ, seqRun_append, proposal_solo exp misfit kern udraw n sched P _ i hi, ih, soloRun_succ]

theorem script_wellFormed_no_exchange (exp : α → α) (misfit : Nat → V → α) (kern : Nat → Nat → V × α → V × α) (udraw : Nat → Nat → α)
    (n P : Nat) (sched : Nat → List Nat) : WellFormed (script exp misfit kern udraw n P 0 sched) :=
  C12.script_wellFormed exp misfit kern udraw n P 0 sched fun h => absurd rfl h

/-- **every operating-system schedule of the chain processes** that runs until no chain can move ends,
    for every chain, with exactly the stand-alone run of that chain (same kernel = same sampler, seed,
    target, initial model, settings) -/
theorem parallel_eq_sequential (exp : α → α) (misfit : Nat → V → α) (kern : Nat → Nat → V × α → V × α) (udraw : Nat → Nat → α)
    (n P : Nat) (sched : Nat → List Nat) (st : Nat → ChainSt V α)
    (osSchedule : List Nat) (u : Sys (ChainSt V α) (TMsg V α))
    (cap : Option Nat)
    (hu : runSched cap (initSys (script exp misfit kern udraw n P 0 sched) st) osSchedule = some u)
    (hmax : ∀ i, stepP cap u i = none) :
    ∀ i, i < n → u.store i = soloRun (kern i) P (st i) := by
  have h := (choreography_all_interleavings (script_wellFormed_no_exchange exp misfit kern udraw n P sched) hu).2.2 hmax
  intro i hi
  rw [h]
  exact no_exchange_is_solo exp misfit kern udraw n P sched st i hi

theorem solo_columns (kern : Nat → V × α → V × α) (P : Nat) (st : ChainSt V α) :
    (soloRun kern P st).cols.length = st.cols.length + P := by
  induction P with
  | zero => rfl
  | succ P ih => rw [soloRun_succ, ← Nat.add_assoc, ← ih]; exact List.length_append

section controller
open Controller

theorem childPut_eq_some {cap : Nat} {s s' : St} : childPut cap s = some s' ↔
    (0 < s.waiting ∧ s.queued < cap) ∧
      { s with waiting := s.waiting - 1, queued := s.queued + 1, exited := s.exited + 1 } = s' := by
  rw [childPut, Option.ite_none_right_eq_some, Option.some.injEq]

theorem ctrlGet_eq_some {s s' : St} : ctrlGet s = some s' ↔
    0 < s.queued ∧ { s with queued := s.queued - 1, collected := s.collected + 1 } = s' := by
  rw [ctrlGet, Option.ite_none_right_eq_some, Option.some.injEq]

/-- every chain is waiting or has exited; every result put is queued or collected -/
def CInv (n : Nat) (s : St) : Prop := s.waiting + s.exited = n ∧ s.queued + s.collected = s.exited

theorem cinv_init (n : Nat) : CInv n (Controller.init n) := by simp [CInv, Controller.init]

/-- moving one unit from `a` to `b` keeps the sum -/
private theorem pred_add_succ {a : Nat} (b : Nat) (h : 0 < a) : a - 1 + (b + 1) = a + b := by
  rw [← Nat.add_assoc, Nat.add_right_comm, Nat.sub_add_cancel h]

theorem cinv_step (n cap : Nat) (s s' : St) (h : CInv n s) (hs : childPut cap s = some s' ∨ ctrlGet s = some s') : CInv n s' := by
  rcases hs with hs | hs
  · obtain ⟨⟨hw, -⟩, rfl⟩ := childPut_eq_some.mp hs
    -- one chain fewer waiting and one more exited; one more queued and one more exited
    exact ⟨(pred_add_succ _ hw).trans h.1, (Nat.add_right_comm _ _ _).trans (congrArg (· + 1) h.2)⟩
  · obtain ⟨hq, rfl⟩ := ctrlGet_eq_some.mp hs
    exact ⟨h.1, (pred_add_succ _ hq).trans h.2⟩

/-- **for every number of chains and every queue capacity ≥ 1**: a controller that reads results while
    the chains run is stuck only when everything is finished -/
theorem controller_no_deadlock (n cap : Nat) (hcap : 0 < cap) (s : St) (h : CInv n s) (hstuck : drainFirstStuck cap s = true) :
    finished n s := by
  obtain ⟨h1, h2⟩ := h
  simp only [drainFirstStuck, childPut, ctrlGet, Bool.and_eq_true, Option.isNone_iff_eq_none, ite_eq_right_iff,
    reduceCtorEq, imp_false] at hstuck
  -- stuck: nothing is queued, so there is room (`0 < cap`), so nobody is waiting; `CInv` gives the rest
  have hq : s.queued = 0 := Nat.eq_zero_of_not_pos hstuck.2
  have hw : s.waiting = 0 := Nat.eq_zero_of_not_pos fun hw => hstuck.1 ⟨hw, hq ▸ hcap⟩
  rw [hw, Nat.zero_add] at h1
  rw [hq, Nat.zero_add] at h2
  exact ⟨hw, hq, h1, h2.trans h1⟩

/-- … and the run terminates. The measure counts the outstanding actions: a waiting chain owes a put
    and a get, a queued result a get -/
theorem controller_progress (cap : Nat) (s s' : St) (hs : childPut cap s = some s' ∨ ctrlGet s = some s') :
    2 * s'.waiting + s'.queued < 2 * s.waiting + s.queued := by
  rcases hs with hs | hs
  · obtain ⟨⟨hw, -⟩, rfl⟩ := childPut_eq_some.mp hs
    -- of the two copies of `waiting` one loses a unit, the other hands it to `queued`
    show 2 * (s.waiting - 1) + (s.queued + 1) < 2 * s.waiting + s.queued
    rw [Nat.two_mul, Nat.two_mul, Nat.add_assoc, Nat.add_assoc, pred_add_succ _ hw]
    exact Nat.add_lt_add_right (Nat.sub_one_lt (Nat.ne_of_gt hw)) _
  · obtain ⟨hq, rfl⟩ := ctrlGet_eq_some.mp hs
    exact Nat.add_lt_add_left (Nat.sub_one_lt (Nat.ne_of_gt hq)) _

/-- the original controller (join all chains, then read): with more chains than the queue's pipe
    holds it deadlocks — `cap` chains have exited, the others wait for room, nobody reads -/
theorem join_first_deadlocks (n cap : Nat) (h : cap < n) :
    joinFirstStuck cap { waiting := n - cap, queued := cap, exited := cap, collected := 0 } = true ∧
    CInv n { waiting := n - cap, queued := cap, exited := cap, collected := 0 } := by
  constructor
  · rw [joinFirstStuck, childPut, if_neg fun h' => Nat.lt_irrefl _ h'.2]
    exact decide_eq_true (Nat.sub_pos_of_lt h)
  · exact ⟨Nat.sub_add_cancel (Nat.le_of_lt h), rfl⟩
end controller

/-! ### a per-chain list together with a shared argument -/
example : chainArgs (0 : Nat) (0 : Nat) (fun a b => a + b) (.each [7, 8, 9]) (.shared 1) 100 2 = (9, 101) := by decide

end C20
end HmcVerif
