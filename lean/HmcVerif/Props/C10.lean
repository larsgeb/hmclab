import HmcVerif.Model.Store
/-
  C10 — the Samples container round-trips data exactly under any buffering
  (model: Model/Store.lean). The statements hold for every op sequence, every clock, every
  column type.
-/
namespace HmcVerif
namespace C10
variable {C τ : Type} (clock : Nat → τ) (fast slow : τ → τ → Bool)

/-- the emptiness test of `flush_buffer` changes nothing: flushing an empty buffer moves no column -/
theorem flush_eq (s : Store C τ) :
    s.flush = { s with disk := s.disk ++ s.buffer, writeIndex := s.writeIndex + s.buffer.length, buffer := [] } := by
  unfold Store.flush
  split
  · have hb : s.buffer = [] := List.isEmpty_iff.mp ‹_›
    rw [hb, List.append_nil, List.length_nil, Nat.add_zero, ← hb]
  · rfl

private theorem adapted_interval_pos (iv : Nat) (f sl : Bool) (h : 1 ≤ iv) :
    1 ≤ (if f then iv * 2 else if sl then max (iv / 2) 1 else iv) := by
  cases f
  · cases sl
    · exact h
    · exact Nat.le_max_right _ _
  · exact Nat.le_trans h (Nat.le_mul_of_pos_right _ Nat.two_pos)

/-- `append` buffers the column and then either stops there or, having read the clock and adapted
    the interval (never to below one column if it was not below), flushes -/
theorem append_cases {P : Store C τ → Prop} (s : Store C τ) (c : C)
    (hkeep : P { s with buffer := s.buffer ++ [c] })
    (hflush : ∀ iv last ticks, (1 ≤ s.interval → 1 ≤ iv) →
      P (Store.flush { s with buffer := s.buffer ++ [c], interval := iv, lastAppend := last, ticks := ticks })) :
    P (s.append clock fast slow c) := by
  by_cases hlt : s.interval < (s.buffer ++ [c]).length
  · rw [show s.append clock fast slow c = Store.flush _ from if_pos hlt]
    refine hflush _ _ _ fun h => ?_
    cases s.lastAppend with
    | none => exact h
    | some t0 => exact adapted_interval_pos _ _ _ h
  · rw [show s.append clock fast slow c = _ from if_neg hlt]
    exact hkeep

/-- file ++ buffer is what was appended, the write index counts the file; `closed = false` is part of
    it because a closed store ignores appends and flushes (`Store.step`) -/
def Inv (s : Store C τ) (appended : List C) : Prop :=
  s.disk ++ s.buffer = appended ∧ s.writeIndex = s.disk.length ∧ s.closed = false

private theorem flush_inv (s : Store C τ) (a : List C) (h : Inv s a) : Inv s.flush a := by
  rw [flush_eq]
  exact ⟨(List.append_nil _).trans h.1, by simp only [h.2.1, List.length_append], h.2.2⟩

/-- columns appended by an op list that contains no `close` -/
def appended : List (StoreOp C) → List C
  | [] => []
  | .append c :: rest => c :: appended rest
  | _ :: rest => appended rest

def NoClose (ops : List (StoreOp C)) : Prop := ∀ o ∈ ops, o ≠ StoreOp.close

private theorem run_inv (ops : List (StoreOp C)) (hn : NoClose ops) (s : Store C τ) (a : List C) (h : Inv s a) :
    Inv (Store.run clock fast slow ops s) (a ++ appended ops) := by
  induction ops generalizing s a with
  | nil => rwa [appended, List.append_nil]
  | cons o os ih =>
    have ih := ih fun o' ho' => hn o' (List.mem_cons_of_mem _ ho')
    have hopen : ¬ s.closed = true := by rw [h.2.2]; exact Bool.false_ne_true
    cases o with
    | append c =>
      have h1 : Inv { s with buffer := s.buffer ++ [c] } (a ++ [c]) :=
        ⟨by rw [← h.1, List.append_assoc], h.2.1, h.2.2⟩
      rw [appended, List.append_cons]
      refine ih _ _ ?_
      rw [Store.step, if_neg hopen]
      exact append_cases clock fast slow (P := fun s' => Inv s' (a ++ [c])) s c h1 fun _ _ _ _ => flush_inv _ _ h1
    | flush => exact ih _ a (by rw [Store.step, if_neg hopen]; exact flush_inv s a h)
    | writeAttr => exact ih _ a h
    | close => exact absurd rfl (hn _ List.mem_cons_self)

/-- **whatever** sequence of appends, explicit flushes and attribute writes is performed and
    **whatever** clock drives the adaptive buffer: file ++ buffer = the appended columns in order -/
theorem store_invariant (ops : List (StoreOp C)) (hn : NoClose ops) :
    let s := Store.run clock fast slow ops (Store.init : Store C τ)
    s.disk ++ s.buffer = appended ops ∧ s.writeIndex = s.disk.length := by
  have h := run_inv clock fast slow ops hn (Store.init : Store C τ) [] ⟨rfl, rfl, rfl⟩
  exact ⟨h.1, h.2.1⟩

/-- after close the file holds exactly the appended columns in order and the write index equals
    the number of columns -/
theorem after_close (ops : List (StoreOp C)) (hn : NoClose ops) :
    let s := Store.run clock fast slow (ops ++ [StoreOp.close]) (Store.init : Store C τ)
    s.disk = appended ops ∧ s.writeIndex = (appended ops).length ∧ s.buffer = [] ∧ s.closed = true := by
  have h := store_invariant clock fast slow ops hn
  dsimp only [Store.run] at h ⊢
  rw [List.foldl_append, List.foldl_cons, List.foldl_nil, Store.step, Store.close, flush_eq]
  exact ⟨h.1, by rw [h.2, ← List.length_append, h.1], rfl, rfl⟩

/-- the adaptive interval never drops below one column -/
theorem interval_pos (ops : List (StoreOp C)) (s : Store C τ) (h : 1 ≤ s.interval) :
    1 ≤ (Store.run clock fast slow ops s).interval :=
  List.foldlRecOn (motive := fun s : Store C τ => 1 ≤ s.interval) ops _ h fun s hs o _ => by
    cases o with
    | append c =>
      rw [Store.step]
      split
      · exact hs
      · exact append_cases clock fast slow (P := fun s' => 1 ≤ s'.interval) s c hs
          fun _ _ _ hiv => by rw [flush_eq]; exact hiv hs
    | flush => rw [Store.step, flush_eq]; split <;> exact hs
    | writeAttr => exact hs
    | close => rw [Store.step, Store.close, flush_eq]; exact hs

/-- read back with burn-in `b`: the appended columns in order with the first `b` dropped -/
theorem read_drops_burn_in (ops : List (StoreOp C)) (hn : NoClose ops) (b : Nat) :
    readColumns (Store.run clock fast slow (ops ++ [StoreOp.close]) (Store.init : Store C τ)).disk b
      = (appended ops).drop b := by
  rw [(after_close clock fast slow ops hn).1]; rfl

/-- `samples[:, j]` of a file opened with burn-in `b` is column `b + j` of the file -/
theorem read_column (disk : List C) (b j : Nat) : readColumn? disk b j = disk[b + j]? :=
  List.getElem?_drop

/-- a burn-in not shorter than the chain is refused, and only such a burn-in -/
theorem burn_in_refused_iff (n b : Nat) : readRefused n b = true ↔ n ≤ b :=
  decide_eq_true_iff

/-- combine_samples = concatenation of the inputs without the NaN-containing columns, in order -/
theorem combine_is_concat_without_nan (hasNaN : C → Bool) (views : List (List C)) :
    combine hasNaN views = (views.map (fun v => v.filter (fun c => !hasNaN c))).flatten :=
  List.filter_flatten

theorem combine_no_nan (hasNaN : C → Bool) (views : List (List C)) :
    ∀ c ∈ combine hasNaN views, hasNaN c = false := by
  intro c hc
  simp only [combine, List.mem_filter] at hc
  simpa using hc.2

/-! ### non-vacuity -/
example : NoClose [StoreOp.append (1 : Nat), .flush, .append 2, .writeAttr, .append 3] := by
  rintro o ho rfl; simp at ho

end C10
end HmcVerif
