import HmcVerif.Props.C20
open HmcVerif.C20
#print axioms routing_shared
#print axioms routing_each
#print axioms no_exchange_is_solo
#print axioms script_wellFormed_no_exchange
#print axioms parallel_eq_sequential
#print axioms solo_columns
#print axioms cinv_step
#print axioms controller_no_deadlock
#print axioms controller_progress
#print axioms join_first_deadlocks
#print axioms kwLookup_merge
#print axioms fixed_keys_win
#print axioms other_keys_from_chain
