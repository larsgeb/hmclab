import HmcVerif.Props.C13
open HmcVerif.C13
#print axioms additive_gradient_sum
#print axioms HmcVerif.Dist.sumList_eq_sum
#print axioms collapse_is_intersection
#print axioms collapseAll_is_intersection
#print axioms composite_gradient_stack
#print axioms composite_reflect_blockwise
#print axioms mixture_logsumexp
#print axioms mixture_gradient
#print axioms mixtureGrad1_eq
#print axioms logspace_change_of_variables
#print axioms logspace_roundtrip
#print axioms logspace_gradient
#print axioms temperature_divides_stdNormal
#print axioms temperature_divides_himmelblau
#print axioms temperature_divides
#print axioms normal_encodings_agree
#print axioms normal_scalar_is_constant_vector
#print axioms normal_det_diagonal
#print axioms mixture_shift_invariant
#print axioms mixture_grad_shift_invariant
#print axioms logspace_change_of_variables_abs
#print axioms HmcVerif.BoxTree.inside1_meet
#print axioms HmcVerif.BoxTree.ebox_support
#print axioms mixture_of_copies
#print axioms mixture_symmetric_pair
