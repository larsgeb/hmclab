import HmcVerif.Props.C04
open HmcVerif HmcVerif.C04
#print axioms metropolis_invariant
#print axioms iterate_invariant
#print axioms comp_invariant
#print axioms accept_probability
#print axioms rule_is_min
#print axioms rule_is_min_general
#print axioms flipP_measurePreserving
#print axioms psi_measurePreserving
#print axioms psi_involution
#print axioms joint_invariant
#print axioms position_invariant
#print axioms hmc_invariant
#print axioms rwmh_invariant
#print axioms rwmh_ratio
#print axioms mixture_invariant
#print axioms boxed_joint_invariant_1d
#print axioms boxed_position_invariant_1d
#print axioms boxed_hmc_invariant_1d
#print axioms psi1_measurePreserving
#print axioms traj1_is_model_step
#print axioms HmcVerif.metropolis_invariant_ae
#print axioms HmcVerif.cdrift_mp_strip
#print axioms HmcVerif.psi1_involution_ae
#print axioms boxed_joint_invariant
#print axioms boxed_position_invariant
#print axioms boxed_hmc_invariant
#print axioms psiBox_measurePreserving
#print axioms HmcVerif.stepBox_mp
#print axioms HmcVerif.psiN_involution_ae
#print axioms HmcVerif.cdriftO_mp_strip
#print axioms HmcVerif.cdriftO_volume
#print axioms rule_is_min_on
#print axioms rwmh_invariant_bounded
#print axioms hmc_randomised_invariant
#print axioms boxed_hmc_randomised_invariant
#print axioms hmc_randomised_invariant_code
#print axioms boxed_hmc_randomised_invariant_code
