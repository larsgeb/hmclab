import HmcVerif.Props.C06
open HmcVerif.C06
#print axioms misfit_outside
#print axioms misfit_inf_outside
#print axioms misfit_eq_unbounded_inside
#print axioms nan_coordinate_outside
#print axioms outside1_iff
#print axioms updateBounds_atomic
#print axioms updateBounds_commit
#print axioms reflect_mirrors_low
#print axioms reflect_mirrors_high
#print axioms reflect_untouched_inside
#print axioms reflect_conserves_kinetic1
#print axioms rwmh_chain_good
#print axioms rwmh_chain_stays_in_box
#print axioms hmc_chain_good
#print axioms hmc_chain_stays_in_box
#print axioms corrector_lands_in_box
#print axioms HmcVerif.BoxTree.ebox_support
-- the corrector lands in the closed box for every kind of box (two-sided, one-sided, none) - Real/Fold.lean
#print axioms HmcVerif.correctorR_inBox1
