import HmcVerif.Props.C01
open HmcVerif.C01
#print axioms schedule_palindrome
#print axioms schedule_time_sums
#print axioms op_reversible
#print axioms propose_reversible
#print axioms linear_vel_odd
#print axioms randomised_scales_uniformly
#print axioms propose_volume_preserving_all
#print axioms boxed_step_reversible
#print axioms propose_reversible_boxed_diag_partial
#print axioms reflect_conserves_kinetic
#print axioms full_mass_box_not_reversible
#print axioms HmcVerif.correctorR_img
#print axioms HmcVerif.correctorR_in_box
#print axioms HmcVerif.correctorR_eq_reflect1
#print axioms HmcVerif.cdrift1_reversible_box
#print axioms HmcVerif.cdrift1_reversible
#print axioms boxRefl_in_box
#print axioms boxed_drift_volume_preserving_1d_partial
#print axioms boxed_drift_pushforward_1d_partial
#print axioms boxed_drift_injective_1d
#print axioms boxed_drift_lands_in_box_1d
#print axioms HmcVerif.piecewise_measure
#print axioms propose_volume_preserving_boxed_diag
#print axioms HmcVerif.trajBox_mp
#print axioms propose_reversible_boxed_diag_ae
