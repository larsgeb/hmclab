import HmcVerif.Model.Async
/-
  The choreography of hmclab's parallel-tempering chains (hmclab/Samplers.py, "Parallel
  communication section" of _sample_loop, and the schedule built by ParallelSampleSMP.sample):
  per proposal every chain runs its own transition kernel; on exchange proposals the scheduled pairs
  run the four-message (eight pipe operations) master/slave protocol; then every chain appends (state, misfit).

  Kernels, target misfits, the uniform draws of the masters and `exp` are parameters.
-/
namespace HmcVerif
namespace Tempering
open Async

/-- local state of a chain process -/
structure ChainSt (V α : Type) where
  model : V            -- current_model
  x : α                -- current_x
  tmpModel : V         -- exchange_model
  exX : α              -- exchange_x
  myImp : α            -- misfit_improvement
  otherImp : α         -- counterpart_improvement
  outgoing : V         -- what the master sends back
  cols : List (V × α)  -- columns appended to this chain's samples file

inductive TMsg (V α : Type) where
  | model (v : V)
  | delta (a : α)

section
variable {V α : Type} [Sub α] [Add α] [LT α] [DecidableLT α] [DecidableEq V]

def msgModel (d : V) : TMsg V α → V
  | .model v => v
  | .delta _ => d
def msgDelta (d : α) : TMsg V α → α
  | .model _ => d
  | .delta a => a

/-- the exchange between slave `s` and master `m` (eight pipe operations, three local computations).
    `misfit i` is chain `i`'s own target, `u` the master's fresh uniform draw. -/
def exchangeBlock (exp : α → α) (misfit : Nat → V → α) (s m : Nat) (u : α) : List (GEv (ChainSt V α) (TMsg V α)) :=
  [ GEv.comm s m (fun st => .model st.model) (fun st msg => { st with tmpModel := msgModel st.tmpModel msg }),
    GEv.comm m s (fun st => .model st.model) (fun st msg => { st with tmpModel := msgModel st.tmpModel msg }),
    GEv.loc m (fun st => { st with exX := misfit m st.tmpModel, myImp := st.x - misfit m st.tmpModel }),
    GEv.loc s (fun st => { st with exX := misfit s st.tmpModel, myImp := st.x - misfit s st.tmpModel }),
    GEv.comm s m (fun st => .delta st.myImp) (fun st msg => { st with otherImp := msgDelta st.otherImp msg }),
    GEv.loc m (fun st =>
      if u < exp (st.myImp + st.otherImp)
      then { st with outgoing := st.model, model := st.tmpModel, x := st.exX }     -- swap: keep the received state with its own misfit
      else { st with outgoing := st.tmpModel }),                                  -- no swap: send the counterpart's state back
    GEv.comm m s (fun st => .model st.outgoing)
      (fun st msg =>
        let v := msgModel st.model msg
        if v = st.tmpModel then { st with model := v, x := st.exX } else { st with model := v }) ]

/-- consecutive pairs of a schedule row: (slave, master) = (row[2t], row[2t+1]) -/
def pairs : List Nat → List (Nat × Nat)
  | s :: m :: rest => (s, m) :: pairs rest
  | _ => []

/-- number of schedule rows needed for `P` proposals with exchange every `I`: ⌈P / I⌉ -/
def rowsNeeded (P I : Nat) : Nat := (P + I - 1) / I

/-- everything that happens for proposal `k` -/
def proposalScript (exp : α → α) (misfit : Nat → V → α) (kern : Nat → Nat → V × α → V × α) (udraw : Nat → Nat → α)
    (n I : Nat) (sched : Nat → List Nat) (k : Nat) : List (GEv (ChainSt V α) (TMsg V α)) :=
  (List.range n).map (fun i => GEv.loc i (fun st => let r := kern i k (st.model, st.x); { st with model := r.1, x := r.2 }))
    ++ (if I ≠ 0 ∧ k % I = 0 then ((pairs (sched (k / I))).map (fun sm => exchangeBlock exp misfit sm.1 sm.2 (udraw sm.2 k))).flatten else [])
    ++ (List.range n).map (fun i => GEv.loc i (fun st => { st with cols := st.cols ++ [(st.model, st.x)] }))

/-- the whole run of `P` proposals (`I = 0`: exchange switched off) -/
def script (exp : α → α) (misfit : Nat → V → α) (kern : Nat → Nat → V × α → V × α) (udraw : Nat → Nat → α)
    (n P I : Nat) (sched : Nat → List Nat) : List (GEv (ChainSt V α) (TMsg V α)) :=
  ((List.range P).map (proposalScript exp misfit kern udraw n I sched)).flatten
end

/-- pipe events of a program, as observable by a logging pipe: `(isSend, partner)` -/
def pipeEvents {σ Msg : Type} : List (Act σ Msg) → List (Bool × Nat)
  | [] => []
  | Act.loc _ :: rest => pipeEvents rest
  | Act.send j _ :: rest => (true, j) :: pipeEvents rest
  | Act.recv j _ :: rest => (false, j) :: pipeEvents rest

end Tempering
end HmcVerif

namespace HmcVerif
namespace Tempering

/-- an argument given to ParallelSampleSMP.sample either once for all chains or as one per chain -/
inductive PerChain (β : Type) where
  | shared (b : β)
  | each (l : List β)

/-- what chain `i` receives -/
def PerChain.pick {β : Type} (d : β) : PerChain β → Nat → β
  | .shared b, _ => b
  | .each l, i => l.getD i d

/-- per-chain argument assembly: `{initial_model} ∪ chain_kwargs ∪ fixed_kwargs` (later wins) -/
def chainArgs {I K : Type} (dI : I) (dK : K) (merge : K → K → K) (initial : PerChain I) (kwargs : PerChain K) (fixed : K) (i : Nat) : I × K :=
  (initial.pick dI i, merge (kwargs.pick dK i) fixed)

/-! keyword dictionaries as association lists; `{**a, **b}`: where both have a key, `b`'s value wins -/
abbrev Kw (β : Type) := List (String × β)

def kwLookup {β : Type} (d : Kw β) (k : String) : Option β := (d.find? (fun e => e.1 == k)).map (·.2)

def kwMerge {β : Type} (a b : Kw β) : Kw β := b ++ a

/-- the keyword arguments chain `i` is started with:
    `{**{"initial_model": initial_model[i]}, **kwargs[i], **fixed_kwargs}` -/
def totalKwargs {β : Type} (init : β) (kwargs fixed : Kw β) : Kw β :=
  kwMerge (kwMerge [("initial_model", init)] kwargs) fixed

section
variable {V α : Type}
/-- what one chain does for proposal `k` when it runs on its own: its kernel, then the append -/
def soloStep (kern : Nat → V × α → V × α) (st : ChainSt V α) (k : Nat) : ChainSt V α :=
  let r := kern k (st.model, st.x)
  let st1 := { st with model := r.1, x := r.2 }
  { st1 with cols := st1.cols ++ [(st1.model, st1.x)] }

/-- a stand-alone run of `P` proposals -/
def soloRun (kern : Nat → V × α → V × α) (P : Nat) (st : ChainSt V α) : ChainSt V α :=
  (List.range P).foldl (soloStep kern) st
end

end Tempering
end HmcVerif
