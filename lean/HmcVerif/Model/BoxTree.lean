/-
  Bounds of nested distributions (hmclab/Distributions/base.py: `_effective_bounds`,
  `AdditiveDistribution.collapse_bounds`, the blocks of a `CompositeDistribution`), one coordinate
  at a time: `none` = no bound on that side. Import-free; instantiated at `Float` by the driver's
  cross-check and at `ℝ` by Real/BoxTreeThm.lean (`ebox_support`: the bounds in force are the
  intersection of all bounds at every depth).
-/
namespace HmcVerif
namespace BoxTree

/-- bounds of one coordinate: optional lower and upper bound -/
abbrev B1 (α : Type) := Option α × Option α

section
variable {α : Type} [LT α] [DecidableLT α]

def optMax : Option α → Option α → Option α
  | none, b => b
  | a, none => a
  | some x, some y => some (if x < y then y else x)
def optMin : Option α → Option α → Option α
  | none, b => b
  | a, none => a
  | some x, some y => some (if y < x then y else x)

/-- `collapse_bounds` on one coordinate: the tighter of both -/
def meet (a b : B1 α) : B1 α := (optMax a.1 b.1, optMin a.2 b.2)
end

/-- an expression of distributions as far as bounds are concerned -/
inductive E (α : Type) where
  | leaf (d : Nat) (box : Nat → B1 α)                               -- any distribution that keeps its bounds itself
  | additive (d : Nat) (own : Nat → B1 α) (parts : List (E α))     -- BayesRule / AdditiveDistribution
  | composite (own : Nat → B1 α) (parts : List (E α))              -- CompositeDistribution: blocks of coordinates

instance {α : Type} : Inhabited (E α) := ⟨.leaf 0 (fun _ => (none, none))⟩

section
variable {α : Type} [LT α] [DecidableLT α]

mutual
def dim : E α → Nat
  | .leaf d _ => d
  | .additive d _ _ => d
  | .composite _ parts => dims parts
def dims : List (E α) → Nat
  | [] => 0
  | p :: ps => dim p + dims ps
end

mutual
/-- the bounds in force for coordinate `i` (`_effective_bounds`) -/
def ebox : E α → Nat → B1 α
  | .leaf _ b, i => b i
  | .additive _ own parts, i => eboxAll parts i (own i)
  | .composite own parts, i => meet (own i) (eboxBlock parts i)
/-- additive: fold of `meet` over the parts -/
def eboxAll : List (E α) → Nat → B1 α → B1 α
  | [], _, acc => acc
  | p :: ps, i, acc => eboxAll ps i (meet acc (ebox p i))
/-- composite: the block that holds coordinate `i` -/
def eboxBlock : List (E α) → Nat → B1 α
  | [], _ => (none, none)
  | p :: ps, i => if i < dim p then ebox p i else eboxBlock ps (i - dim p)
end
end

end BoxTree
end HmcVerif
