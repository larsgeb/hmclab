/-
  Model of hmclab/Distributions/LayeredRayTracing2D.py: `_tracerays` for a down-going ray shot from
  the origin (keep_upgoing = False), segment by segment through horizontal layers:
  Snell's law with ray parameter `p = sin θ₀ / v₀`, clipping at the receiver line `x = xr`,
  travel-time / length / per-layer-length accounting.

  Layer `k` starts at depth `bot (k-1)` (layer 0 at depth 0), ends at depth `bot k` and has velocity
  `vel k`. Trigonometry (`sin`, `cos`, `asin`, `sqrt`) is a parameter.
-/
namespace HmcVerif
namespace RayTrace

structure Seg (α : Type) where
  layer : Nat
  x0 : α
  z0 : α
  x1 : α
  z1 : α
  theta : α        -- angle from the vertical in this layer
  len : α
  vel : α

inductive Status where
  | reached      -- arrived at the receiver line
  | exited       -- left the model through the bottom before reaching the receiver line
  | turned       -- critical angle: `v_k p ≥ 1`
deriving Repr, DecidableEq

structure Ray (α : Type) where
  segs : List (Seg α)
  status : Status
  x : α
  z : α
  tt : α
  dist : α

section
variable {α : Type} [Add α] [Sub α] [Mul α] [Div α] [LT α] [DecidableLT α] [LE α] [DecidableLE α] [OfScientific α]

/-- trace layers `k, k+1, …` (`fuel` of them) from the point `(x, z)` on top of layer `k` -/
def traceFrom (sin cos asin sqrt : α → α) (bot vel : Nat → α) (xr p : α) :
    Nat → Nat → α → α → List (Seg α) → α → α → Ray α
  | 0, _, x, z, acc, tt, dist => { segs := acc.reverse, status := .exited, x := x, z := z, tt := tt, dist := dist }
  | fuel + 1, k, x, z, acc, tt, dist =>
    let a := vel k * p
    if (1.0 : α) ≤ a then { segs := acc.reverse, status := .turned, x := x, z := z, tt := tt, dist := dist }
    else
      let th := asin a
      let m := cos th / sin th
      let xn := (bot k + m * x - z) / m
      if xr < xn then
        -- clip at the receiver line
        let zc := m * xr - m * x + z
        let len := sqrt ((xr - x) * (xr - x) + (zc - z) * (zc - z))
        let s : Seg α := { layer := k, x0 := x, z0 := z, x1 := xr, z1 := zc, theta := th, len := len, vel := vel k }
        { segs := (s :: acc).reverse, status := .reached, x := xr, z := zc, tt := tt + len / vel k, dist := dist + len }
      else
        let len := sqrt ((xn - x) * (xn - x) + (bot k - z) * (bot k - z))
        let s : Seg α := { layer := k, x0 := x, z0 := z, x1 := xn, z1 := bot k, theta := th, len := len, vel := vel k }
        traceFrom sin cos asin sqrt bot vel xr p fuel (k + 1) xn (bot k) (s :: acc) (tt + len / vel k) (dist + len)

/-- the ray shot from the origin at take-off angle `theta0` (radians) through `n` layers -/
def trace (sin cos asin sqrt : α → α) (n : Nat) (bot vel : Nat → α) (xr theta0 : α) : Ray α :=
  traceFrom sin cos asin sqrt bot vel xr (sin theta0 / vel 0) n 0 (0.0 : α) (0.0 : α) [] (0.0 : α) (0.0 : α)

/-- the code reports travel time and length for every ray that reaches the receiver line, in
    whichever layer it ends (the deepest layer included; `topLast`, the top of that layer, is kept
    in the interface for the driver) -/
def reported (r : Ray α) (_topLast : α) : Bool := r.status == .reached
end

/-- path length spent in layer `j` -/
def perLayer {α : Type} [Add α] (zero : α) (segs : List (Seg α)) (j : Nat) : α :=
  (segs.filter (fun s => s.layer == j)).foldl (fun acc s => acc + s.len) zero

end RayTrace
end HmcVerif
