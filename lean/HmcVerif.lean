import HmcVerif.Model.Integrator
import HmcVerif.Model.Metropolis
import HmcVerif.Model.Mass
import HmcVerif.Model.Dist
import HmcVerif.Model.DistAlg
import HmcVerif.Model.BoxTree
import HmcVerif.Model.Bounds
import HmcVerif.Model.Store
import HmcVerif.Model.Loop
import HmcVerif.Model.Consent
import HmcVerif.Model.Async
import HmcVerif.Model.Tempering
import HmcVerif.Model.Controller
import HmcVerif.Model.Linear
import HmcVerif.Model.SourceLoc
import HmcVerif.Model.RayTrace
import HmcVerif.Model.Optimizer
import HmcVerif.Exec.Vec
import HmcVerif.Exec.Proto
import HmcVerif.Exec.Targets
import HmcVerif.Exec.Dists
import HmcVerif.Exec.C01
import HmcVerif.Exec.C02
import HmcVerif.Exec.C03
import HmcVerif.Exec.C04
import HmcVerif.Exec.C05
import HmcVerif.Exec.C06
import HmcVerif.Exec.C08
import HmcVerif.Exec.C10
import HmcVerif.Exec.C11
import HmcVerif.Exec.C12
import HmcVerif.Exec.C15
import HmcVerif.Exec.C17
import HmcVerif.Exec.C18
import HmcVerif.Exec.C19
import HmcVerif.Real.Ext
import HmcVerif.Real.Lit
import HmcVerif.Real.LinAlg
import HmcVerif.Real.Algebra
import HmcVerif.Real.DistReal
import HmcVerif.Real.Split
import HmcVerif.Real.Volume
import HmcVerif.Real.Reflect
import HmcVerif.Real.Fold
import HmcVerif.Real.FoldVolume
import HmcVerif.Real.Kernel
import HmcVerif.Real.BoxedKernel
import HmcVerif.Real.Grad
import HmcVerif.Real.Grad2
import HmcVerif.Real.BoxTreeThm
import HmcVerif.Real.AsyncThm
import HmcVerif.Props.C01
import HmcVerif.Audit.C01
import HmcVerif.Props.C02
import HmcVerif.Audit.C02
import HmcVerif.Props.C03
import HmcVerif.Audit.C03
import HmcVerif.Props.C04
import HmcVerif.Audit.C04
import HmcVerif.Props.C05
import HmcVerif.Audit.C05
import HmcVerif.Props.C06
import HmcVerif.Audit.C06
import HmcVerif.Props.C07
import HmcVerif.Audit.C07
import HmcVerif.Props.C08
import HmcVerif.Audit.C08
import HmcVerif.Props.C09
import HmcVerif.Audit.C09
import HmcVerif.Props.C10
import HmcVerif.Audit.C10
import HmcVerif.Props.C11
import HmcVerif.Audit.C11
import HmcVerif.Props.C12
import HmcVerif.Audit.C12
import HmcVerif.Props.C13
import HmcVerif.Audit.C13
import HmcVerif.Props.C14
import HmcVerif.Audit.C14
import HmcVerif.Props.C15
import HmcVerif.Audit.C15
import HmcVerif.Props.C16
import HmcVerif.Audit.C16
import HmcVerif.Props.C17
import HmcVerif.Audit.C17
import HmcVerif.Props.C18
import HmcVerif.Audit.C18
import HmcVerif.Props.C19
import HmcVerif.Audit.C19
import HmcVerif.Props.C20
import HmcVerif.Audit.C20
